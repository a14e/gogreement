import GGV.Model.Checkers
import GGV.Lemmas.Respell
/-!
# C13 — Enforcement follows type identity, not spelling at the use site

The model keeps go/types' structure (alias / pointer / named). `Ty.norm` removes every alias (what
`types.Identical` ignores); two spellings of a use site's type are identical iff their normal forms agree.
Every classification function of the four checkers is proven invariant under `norm`, hence every per-node
verdict is the same for identical types: local alias, alias declared in a third package, alias of a pointer,
pointer to an alias. Parentheses: the LHS classifiers are invariant under `paren`. A renamed import changes
nothing the model reads (identifiers are resolved to objects by the type checker).
-/
namespace GGV.Props.C13
open GGV.Model GGV.Model.Prog

/-- alias-free normal form -/
def norm : Ty → Ty
  | .alias _ _ r => norm r
  | .ptr e => .ptr (norm e)
  | t => t

/-- two type expressions denote identical types (as far as aliases are concerned) -/
def Identical (a b : Ty) : Prop := norm a = norm b

theorem unalias_norm (t : Ty) : norm t.unalias = norm t := by
  induction t with
  | alias p n r ih => exact ih
  | _ => rfl

theorem unalias_not_alias (t : Ty) : ∀ p n r, t.unalias ≠ .alias p n r := by
  induction t with
  | alias p n r ih => exact ih
  | _ => intro p n r h; cases h

theorem norm_eq (t : Ty) : t.norm = norm t := by
  induction t with
  | alias p n r ih => exact ih
  | ptr e ih => exact congrArg Ty.ptr ih
  | _ => rfl

/-- **`typeInfo` (immutable LHS, constructor literal / new, testonly uses, receivers) sees only the normal form** -/
theorem typeInfo_norm (t : Ty) : typeInfo (some t) = typeInfo (some (norm t)) := norm_eq t ▸ typeInfo_norm' t

theorem varTypeInfo_norm (t : Ty) : varTypeInfo (some t) = varTypeInfo (some (norm t)) := norm_eq t ▸ varTypeInfo_norm' t

theorem typeName_norm (t : Ty) : typeName t = typeName (norm t) := norm_eq t ▸ typeName_norm' t

/-- **classification respects identity** -/
theorem classify_respects_identity (a b : Ty) (h : Identical a b) :
    typeInfo (some a) = typeInfo (some b) ∧ varTypeInfo (some a) = varTypeInfo (some b) ∧ typeName a = typeName b := by
  refine ⟨?_, ?_, ?_⟩
  · rw [typeInfo_norm a, typeInfo_norm b, h]
  · rw [varTypeInfo_norm a, varTypeInfo_norm b, h]
  · rw [typeName_norm a, typeName_norm b, h]

/-- **respelling a use site into an identical type changes no verdict** — per node, for each checker -/
theorem respell_invariant (c : WalkCtx) (fn : Name) (recv : Option RecvCtx) (ig : ISet) (a b : Ty) (h : Identical a b)
    (pos stop sl el : Int) (size : Nat) (f : Name) (s : TonlState) (ps : PkgoState) (m : Name) (pk : Option Name) :
    -- constructor: literal, new(T), var x T
    ctorNode c fn ⟨.compLit (some a), pos, stop, sl, el, size⟩ = ctorNode c fn ⟨.compLit (some b), pos, stop, sl, el, size⟩ ∧
    ctorNode c fn ⟨.call (.ident (ascii "new") .none) 1 (some a), pos, stop, sl, el, size⟩ =
      ctorNode c fn ⟨.call (.ident (ascii "new") .none) 1 (some b), pos, stop, sl, el, size⟩ ∧
    ctorVarSpec c fn ⟨false, [⟨f, pos, some a⟩]⟩ = ctorVarSpec c fn ⟨false, [⟨f, pos, some b⟩]⟩ ∧
    -- immutable: x.f = v with x of type a / b
    immAssignLhs c fn recv (.sel (some a) f pos) = immAssignLhs c fn recv (.sel (some b) f pos) ∧
    -- testonly: literal / typed var / field or parameter, method call on a value of the type
    tonlNode c ig s ⟨.compLit (some a), pos, stop, sl, el, size⟩ = tonlNode c ig s ⟨.compLit (some b), pos, stop, sl, el, size⟩ ∧
    tonlNode c ig s ⟨.field (some a), pos, stop, sl, el, size⟩ = tonlNode c ig s ⟨.field (some b), pos, stop, sl, el, size⟩ ∧
    tonlCall c (.sel none m (some a)) = tonlCall c (.sel none m (some b)) ∧
    -- packageonly: method of a type reached through a / b
    pkgoNode c ig ps ⟨.selector (.method pk m a), pos, stop, sl, el, size⟩ =
      pkgoNode c ig ps ⟨.selector (.method pk m b), pos, stop, sl, el, size⟩ := by
  obtain ⟨h1, h2, h3⟩ := classify_respects_identity a b h
  refine ⟨?_, ?_, ?_, ?_, ?_, ?_, ?_, ?_⟩
  · simp only [ctorNode, h1]
  · simp only [ctorNode, h1]
  · simp only [ctorVarSpec, List.flatMap_cons, h2]
  · have hh : immFieldHit c fn (some a) f = immFieldHit c fn (some b) f := by simp only [immFieldHit, h1]
    simp only [immAssignLhs, Lhs.unparen, hh]
  · simp only [tonlNode, tonlTypeUse, h1]
  · simp only [tonlNode, tonlTypeUse, h1]
  · simp only [tonlCall, h1]
  · cases pk <;> simp only [pkgoNode, h3]

/-- added / removed parentheses around a left-hand side do not matter -/
theorem paren_invariant (c : WalkCtx) (fn : Name) (recv : Option RecvCtx) (l : Lhs) (pos : Int) :
    immAssignLhs c fn recv (.paren l) = immAssignLhs c fn recv l ∧
    immCompoundLhs c fn (.paren l) = immCompoundLhs c fn l ∧
    immIncDec c fn recv pos (.paren l) = immIncDec c fn recv pos l := by
  refine ⟨?_, ?_, ?_⟩ <;> simp only [immAssignLhs, immCompoundLhs, immIncDec, Lhs.unparen]

/-! ## Non-vacuity: the spellings the property lists are identical to the direct one -/
def T : Ty := .named (some (ascii "exp/a")) (ascii "T")
example : Identical (.alias (some (ascii "exp/b")) (ascii "A") T) T := rfl                       -- alias (local or third package)
example : Identical (.ptr (.alias (some (ascii "exp/b")) (ascii "A") T)) (.ptr T) := rfl          -- pointer to an alias
example : Identical (.alias none (ascii "PX") (.ptr T)) (.ptr T) := rfl                          -- alias of a pointer
example : typeInfo (some (.alias none (ascii "PX") (.ptr (.alias none (ascii "A") T)))) = some (ascii "exp/a", ascii "T") := by decide +kernel

/-- **re-spelling invariance of the whole analysis**: replace, at every use site of a package (operands of field
    writes, literals, `new`, declared variables, fields and parameters, method receivers), the type by an identical
    one — through a local alias, an alias of a third package, an alias of a pointer, a pointer to an alias. The
    annotations read and the diagnostics (codes, statements, order) are unchanged. -/
theorem respell_program_invariant (σ : Ty → Ty) (hσ : ∀ t, Identical (σ t) t)
    (cfg : Cfg) (facts : List (Name × Annotations)) (p : Pkg) :
    (analyze cfg facts (p.mapTy σ)).ann = (analyze cfg facts p).ann ∧
    (analyze cfg facts (p.mapTy σ)).diags = (analyze cfg facts p).diags :=
  analyze_mapTy σ (fun t => by rw [norm_eq, norm_eq]; exact hσ t) cfg facts p

/-- non-vacuity: wrapping every type in a fresh alias is a re-spelling -/
example : ∀ t, Identical ((fun t => Ty.alias (some (ascii "exp/u")) (ascii "A") t) t) t := fun _ => rfl

end GGV.Props.C13
