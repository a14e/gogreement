import GGV.Props.C01
import GGV.Props.C02
import GGV.Props.C03
import GGV.Props.C04
/-!
# C14 — Excluded files are inert: no diagnostics in them, no influence from them
-/
namespace GGV.Props.C14
open GGV.Model GGV.Model.Prog

/-- exactly which files are excluded: a name containing an exclude-paths entry, or (unless scan-tests) a `_test.go` name -/
theorem shouldSkip_char (c : Cfg) (name : Bytes) :
    shouldSkip c name = true ↔
      (∃ e ∈ c.excludePaths, Grammar.isInfix e name = true) ∨ (c.scanTests = false ∧ testSuffix.isSuffixOf name = true) := by
  simp [shouldSkip]

/-- with scan-tests on, a test file is treated like any other file by the file filter -/
theorem scan_tests_like_any (c : Cfg) (name : Bytes) (h : c.scanTests = true) :
    shouldSkip c name = c.excludePaths.any (fun p => Grammar.isInfix p name) := by
  simp [shouldSkip, h]

/-- … except that it never receives TONL diagnostics -/
theorem tonl_never_in_tests (c : WalkCtx) (ig : ISet) (f : File) (h : testSuffix.isSuffixOf f.name = true) :
    tonlFile c ig f = [] := C03.testonly_test_files_silent c ig f h

/-- **no influence from excluded files**: everything the analyzers compute for a package is a function of the
    files the configuration selects (plus the package's path and name, and its direct imports' facts):
    annotations, @ignore comments and violations inside excluded files change nothing -/
theorem excluded_inert (cfg : Cfg) (facts : List (Name × Annotations)) (p p' : Pkg)
    (hpath : p.path = p'.path) (hname : p.name = p'.name) (hfiles : filesToScan cfg p = filesToScan cfg p') :
    analyze cfg facts p = analyze cfg facts p' := by
  have ha : readAnnotations cfg p = readAnnotations cfg p' := by simp only [readAnnotations, hpath, hfiles]
  have hi : readIgnores cfg p = readIgnores cfg p' := by simp only [readIgnores, ignoreOps, hfiles]
  have h1 : ∀ c, checkImmutable cfg c p = checkImmutable cfg c p' := by intro c; simp only [checkImmutable, hfiles]
  have h2 : ∀ c, checkConstructor cfg c p = checkConstructor cfg c p' := by intro c; simp only [checkConstructor, hfiles]
  have h3 : ∀ c ig, checkTestOnly cfg c ig p = checkTestOnly cfg c ig p' := by intro c ig; simp only [checkTestOnly, hfiles]
  have h4 : ∀ c ig, checkPackageOnly cfg c ig p = checkPackageOnly cfg c ig p' := by intro c ig; simp only [checkPackageOnly, hfiles]
  unfold analyze
  simp only [ha, hi, h1, h2, h3, h4, hpath, hname]

/-! ## no diagnostic is located in an excluded file -/

def lhsPositions : Lhs → List Int
  | .sel _ _ p => [p]
  | .idx x p => p :: lhsPositions x
  | .star x p => p :: lhsPositions x
  | .paren x => lhsPositions x
  | _ => []

/-- every source position a node mentions -/
def nodePositions (n : Node) : List Int :=
  n.pos :: (match n.kind with
    | .assign _ lhs => lhs.flatMap lhsPositions
    | .incDec x => lhsPositions x
    | .genVar specs => specs.flatMap fun s => s.names.map (·.pos)
    | _ => [])

def filePositions (f : File) : List Int := f.decls.flatMap fun d => d.nodes.flatMap nodePositions

theorem unparen_positions (l : Lhs) : ∀ p ∈ lhsPositions l.unparen, p ∈ lhsPositions l := by
  induction l with
  | paren x ih => exact ih
  | _ => exact fun _ h => h

def sitePos : C01.Site → Int
  | .field _ _ pos _ => pos
  | .recv _ pos _ => pos

theorem siteDiag_pos (c : WalkCtx) (fn : Name) (recv : Option RecvCtx) (s : C01.Site) (dg : Diag)
    (h : dg ∈ C01.siteDiag c fn recv s) : dg.pos = sitePos s := by
  cases s <;> (simp only [C01.siteDiag] at h; split at h) <;> simp_all [sitePos]

theorem assignSites_pos (l : Lhs) : ∀ s ∈ C01.assignSites l, sitePos s ∈ lhsPositions l := by
  intro s hs
  apply unparen_positions
  unfold C01.assignSites at hs
  cases hu : l.unparen with
  | idx x pos => rw [hu] at hs; cases hx : x.unparen <;> simp_all [sitePos, lhsPositions]
  | _ => simp_all [sitePos, lhsPositions]

theorem compoundSites_pos (l : Lhs) : ∀ s ∈ C01.compoundSites l, sitePos s ∈ lhsPositions l := by
  intro s hs
  apply unparen_positions
  unfold C01.compoundSites at hs
  cases hu : l.unparen <;> simp_all [sitePos, lhsPositions]

theorem sites_pos (n : Node) : ∀ s ∈ C01.sites n, sitePos s ∈ nodePositions n := by
  intro s hs
  unfold C01.sites at hs
  unfold nodePositions
  cases hk : n.kind with
  | assign tok lhs =>
    simp only [hk] at hs
    simp only [List.mem_cons, List.mem_flatMap]
    right
    split at hs <;> obtain ⟨l, hl, hs⟩ := List.mem_flatMap.1 hs
    · exact ⟨l, hl, assignSites_pos l s hs⟩
    · exact ⟨l, hl, compoundSites_pos l s hs⟩
  | incDec x =>
    simp only [hk, C01.incDecSites] at hs
    cases hu : x.unparen with
    | star y pos =>
      refine List.mem_cons_of_mem _ (unparen_positions x _ ?_)
      simp_all [sitePos, lhsPositions]
    | _ => simp_all [sitePos]
  | _ => simp [hk] at hs

theorem imm_site_pos (c : WalkCtx) (fn : Name) (recv : Option RecvCtx) (n : Node) (dg : Diag)
    (h : dg ∈ immNode c fn recv n) : dg.pos ∈ nodePositions n := by
  rw [C01.immNode_eq_sites] at h
  obtain ⟨s, hs, hd⟩ := List.mem_flatMap.1 h
  exact siteDiag_pos c fn recv s dg hd ▸ sites_pos n s hs

theorem ctor_site_pos (c : WalkCtx) (fn : Name) (n : Node) (dg : Diag)
    (h : dg ∈ ctorNode c fn n) : dg.pos ∈ nodePositions n := by
  rw [C02.ctorNode_eq_sites] at h
  obtain ⟨s, hs, hd⟩ := List.mem_flatMap.1 h
  have hp : dg.pos = s.pos := by
    rw [C02.siteDiag, List.mem_ite_nil_right, List.mem_singleton] at hd
    rw [hd.2]
  rw [hp]
  unfold C02.sites at hs
  unfold nodePositions
  cases hk : n.kind with
  | compLit ty => simp_all
  | call callee nargs arg0 =>
    cases callee with
    | ident name o => simp only [hk] at hs; split at hs <;> simp_all
    | _ => simp [hk] at hs
  | genVar specs =>
    simp only [hk, List.mem_flatMap] at hs
    obtain ⟨sp, hsp, hs2⟩ := hs
    split at hs2
    · cases hs2
    · obtain ⟨v, hv1, hv2⟩ := List.mem_flatMap.1 hs2
      split at hv2
      · cases hv2
      · cases List.mem_singleton.1 hv2
        exact List.mem_cons_of_mem _ (List.mem_flatMap.2 ⟨sp, hsp, List.mem_map.2 ⟨v, hv1, rfl⟩⟩)
  | _ => simp [hk] at hs

theorem mem_filePositions (f : File) (d : Decl) (n : Node) (x : Int) (hd : d ∈ f.decls) (hn : n ∈ d.nodes)
    (hx : x ∈ nodePositions n) : x ∈ filePositions f := by
  simp only [filePositions, List.mem_flatMap]
  exact ⟨d, hd, n, hn, hx⟩

theorem tonl_ev_pos (c : WalkCtx) (n : Node) (ev : Ev C03.Key) (h : C03.tonlEv c n = some ev) : ev.diag.pos = n.pos := by
  unfold C03.tonlEv at h
  split at h
  · obtain ⟨_, _, rfl⟩ := Option.map_eq_some_iff.1 h; rfl
  · obtain ⟨_, _, rfl⟩ := Option.map_eq_some_iff.1 h; rfl
  · obtain ⟨_, _, rfl⟩ := Option.map_eq_some_iff.1 h; rfl
  · obtain ⟨_, _, rfl⟩ := Option.map_eq_some_iff.1 h; rfl
  · cases h

theorem eq_of_ite_ite_eq_some {α : Type} {a b : Prop} [Decidable a] [Decidable b] {x ev : α}
    (h : (if a then none else if b then some x else none) = some ev) : x = ev := by
  split at h
  · cases h
  · split at h
    · exact Option.some.inj h
    · cases h

theorem pkgo_ev_pos (c : WalkCtx) (n : Node) (ev : Ev C04.Key) (h : C04.pkgoEv c n = some ev) : ev.diag.pos = n.pos := by
  unfold C04.pkgoEv at h
  split at h
  · cases eq_of_ite_ite_eq_some h; rfl
  · cases eq_of_ite_ite_eq_some h; rfl
  · cases eq_of_ite_ite_eq_some h; rfl
  · cases h

theorem located_of_decls (cfg : Cfg) (p : Pkg) (walk : Decl → List Diag) (dg : Diag)
    (hw : ∀ f ∈ p.files, ∀ d ∈ f.decls, ∀ x ∈ walk d, ∃ n ∈ d.nodes, x.pos ∈ nodePositions n)
    (h : dg ∈ (filesToScan cfg p).flatMap fun f => f.decls.flatMap walk) :
    ∃ f ∈ p.files, shouldSkip cfg f.name = false ∧ dg.pos ∈ filePositions f := by
  obtain ⟨f, hf1, hf2, d, hd, hm⟩ := mem_flatMap_scannedDecls.1 h
  obtain ⟨n, hn, hx⟩ := hw f hf1 d hd dg hm
  exact ⟨f, hf1, hf2, mem_filePositions f d n _ hd hn hx⟩

theorem located_of_evs {K : Type} [DecidableEq K] (f : File) (evs : List (Ev K)) (sup : Diag → Bool) (dg : Diag)
    (hev : ∀ ev ∈ evs, ∃ d ∈ f.decls, ∃ n ∈ d.nodes, ev.diag.pos = n.pos)
    (h : dg ∈ (runEvs sup {} evs).out) : dg.pos ∈ filePositions f := by
  obtain ⟨ev, hmem, rfl⟩ := exists_ev_of_mem_runEvs sup _ dg h
  obtain ⟨d, hd, n, hn, hp⟩ := hev ev hmem
  exact mem_filePositions f d n _ hd hn (hp ▸ List.mem_cons_self)

/-- **no diagnostic in an excluded file**: every reported position is a position of a node of a file the
    configuration selects -/
theorem no_diag_in_excluded (cfg : Cfg) (facts : List (Name × Annotations)) (p : Pkg)
    (hs : PkgShape p) (hz : ∀ f ∈ p.files, ∀ d ∈ f.decls, C03.DeclSized d) (dg : Diag)
    (h : dg ∈ (analyze cfg facts p).diags) :
    ∃ f ∈ p.files, shouldSkip cfg f.name = false ∧ dg.pos ∈ filePositions f := by
  generalize hc : (⟨(p.path, readAnnotations cfg p) :: facts, p.path, p.name⟩ : WalkCtx) = c at h
  generalize hig : readIgnores cfg p = ig at h
  simp only [analyze, hc, hig, List.mem_append, List.mem_filter] at h
  rcases h with ((⟨h, _⟩ | ⟨h, _⟩) | h) | h
  · unfold checkImmutable at h
    split at h
    · cases h
    · refine located_of_decls cfg p _ dg (fun f hf d hd x hx => ?_) h
      rw [immDecl_eq c d (hs f hf d hd)] at hx
      obtain ⟨n, hn, hx⟩ := List.mem_flatMap.1 hx
      exact ⟨n, hn, imm_site_pos _ _ _ n x hx⟩
  · unfold checkConstructor at h
    split at h
    · cases h
    · refine located_of_decls cfg p _ dg (fun f hf d hd x hx => ?_) h
      rw [ctorDecl_eq c d (hs f hf d hd)] at hx
      obtain ⟨n, hn, hx⟩ := List.mem_flatMap.1 hx
      exact ⟨n, hn, ctor_site_pos _ _ n x hx⟩
  · obtain ⟨f, hf1, hf2, _, hev⟩ := (C03.testonly_exact cfg c ig p hs hz dg).1 h
    refine ⟨f, hf1, hf2, located_of_evs f _ _ dg (fun ev hev => ?_) ((mem_runEvs_init _ _ _).2 hev)⟩
    obtain ⟨d, hd, hm⟩ := List.mem_flatMap.1 hev
    unfold C03.declEvs at hm
    split at hm
    · cases hm
    · obtain ⟨n, hn, hne⟩ := List.mem_filterMap.1 hm
      exact ⟨d, hd, n, hn, tonl_ev_pos c n ev hne⟩
  · obtain ⟨f, hf1, hf2, hev⟩ := (C04.packageonly_exact cfg c ig p dg).1 h
    refine ⟨f, hf1, hf2, located_of_evs f _ _ dg (fun ev hev => ?_) ((mem_runEvs_init _ _ _).2 hev)⟩
    obtain ⟨d, hd, hm⟩ := List.mem_flatMap.1 hev
    obtain ⟨n, hn, hne⟩ := List.mem_filterMap.1 hm
    exact ⟨d, hd, n, hn, pkgo_ev_pos c n ev hne⟩

/-! ## Non-vacuity -/
example : shouldSkip {} (ascii "pkg/x_test.go") = true ∧ shouldSkip {} (ascii "pkg/testdata/x.go") = true ∧
    shouldSkip {} (ascii "pkg/x.go") = false ∧ shouldSkip { scanTests := true } (ascii "pkg/x_test.go") = false ∧
    shouldSkip { scanTests := true, excludePaths := [ascii "gen", ascii "mock"] } (ascii "a/mocks/m_test.go") = true := by decide +kernel

end GGV.Props.C14
