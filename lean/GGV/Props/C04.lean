import GGV.Lemmas.Walk
import GGV.Lemmas.Env
import GGV.Lemmas.Dedup
/-!
# C04 — @packageonly is enforced exactly against the union of allowed packages
-/
namespace GGV.Props.C04
open GGV.Model GGV.Model.Prog

abbrev Key := Name × Name

/-- a reference from the current package to an item of package `p` is forbidden: the item carries
    @packageonly and neither the current package's path nor its name is in the union of the lists -/
def forbidden (c : WalkCtx) (att : List Name) : Bool := !(att.isEmpty || pkgoAllowed c att)

/-- what a selector node contributes -/
def pkgoEv (c : WalkCtx) (n : Node) : Option (Ev Key) :=
  match n.kind with
  | .selector (.typeName (some p) t) =>
    if p == c.curPkg then none
    else if forbidden c (c.env.attachments p .onType [] t) then some (.keyed (p, t) ⟨n.pos, "PKGO01"⟩) else none
  | .selector (.func (some p) f) =>
    if p == c.curPkg then none
    else if forbidden c (c.env.attachments p .onFunc [] f) then some (.plain ⟨n.pos, "PKGO02"⟩) else none
  | .selector (.method (some p) m recv) =>
    if p == c.curPkg then none
    else if forbidden c (c.env.attachments p .onMethod (typeName recv) m) then some (.plain ⟨n.pos, "PKGO03"⟩) else none
  | _ => none

def fileEvs (c : WalkCtx) (f : File) : List (Ev Key) := f.decls.flatMap fun d => d.nodes.filterMap (pkgoEv c)

def sup (ig : ISet) (d : Diag) : Bool := ig.contains d.code d.pos

def toD (s : PkgoState) : DState Key := ⟨s.reported, s.out⟩

theorem toD_injective : Function.Injective toD := fun ⟨_, _⟩ ⟨_, _⟩ h => by cases h; rfl

/-- visiting a node is applying the event it offers -/
theorem pkgoNode_eq (c : WalkCtx) (ig : ISet) (s : PkgoState) (n : Node) :
    toD (pkgoNode c ig s n) = (pkgoEv c n).elim (toD s) (applyEv (sup ig) (toD s)) := by
  -- the three reportable selector forms share one shape: `own` = the item is the current package's, `ok` = it is
  -- not annotated or the current package is allowed
  have plain : ∀ (own ok : Bool) (code : String),
      toD (if own then s else if ok then s else if ig.contains code n.pos then s
        else { s with out := s.out ++ [⟨n.pos, code⟩] }) =
      (if own then none else if !ok then some (Ev.plain ⟨n.pos, code⟩) else none).elim (toD s) (applyEv (sup ig) (toD s)) := by
    intro own ok code
    cases own <;> cases ok <;> try rfl
    simp only [Bool.not_false, Bool.false_eq_true, if_true, if_false, Option.elim_some, applyEv, sup, toD]
    by_cases hi : ig.contains code n.pos = true <;> simp [hi]
  have keyed : ∀ (own ok : Bool) (k : Key),
      toD (if own then s else if ok then s else if ig.contains "PKGO01" n.pos then s
        else if s.reported.contains k then s
        else { reported := s.reported ++ [k], out := s.out ++ [⟨n.pos, "PKGO01"⟩] }) =
      (if own then none else if !ok then some (Ev.keyed k ⟨n.pos, "PKGO01"⟩) else none).elim (toD s) (applyEv (sup ig) (toD s)) := by
    intro own ok k
    cases own <;> cases ok <;> try rfl
    simp only [Bool.not_false, Bool.false_eq_true, if_true, if_false, Option.elim_some, applyEv, sup, toD]
    by_cases hi : ig.contains "PKGO01" n.pos = true
    · simp [hi]
    · by_cases hr : k ∈ s.reported <;> simp [hi, hr]
  unfold pkgoNode pkgoEv forbidden
  cases hk : n.kind with
  | selector o =>
    cases o with
    | typeName p t => cases p with
      | none => rfl
      | some p => exact keyed _ _ _
    | func p f => cases p with
      | none => rfl
      | some p => exact plain _ _ _
    | method p m recv => cases p with
      | none => rfl
      | some p => exact plain _ _ _
    | _ => rfl
  | _ => rfl

theorem pkgoFile_eq (c : WalkCtx) (ig : ISet) (f : File) :
    pkgoFile c ig f = (runEvs (sup ig) {} (fileEvs c f)).out := by
  exact congrArg DState.out (foldl_eq_runEvs toD (sup ig) _ _ f.decls
    (fun s d _ => foldl_eq_runEvs_filterMap toD _ _ _ d.nodes (pkgoNode_eq c ig) s) {})

/-- the specification: per non-excluded file, every unsuppressed forbidden reference to a function / method,
    and for each forbidden type its first unsuppressed reference -/
def PkgoReported (cfg : Cfg) (c : WalkCtx) (ig : ISet) (p : Pkg) (dg : Diag) : Prop :=
  ∃ f ∈ p.files, shouldSkip cfg f.name = false ∧
    ((Ev.plain dg ∈ fileEvs c f ∧ sup ig dg = false) ∨ ∃ k, FirstUnsuppressed (sup ig) (fileEvs c f) k dg)

theorem pkgoEv_of_noPackageOnly (c : WalkCtx) (h : c.env.noPackageOnly = true) (n : Node) : pkgoEv c n = none := by
  unfold pkgoEv forbidden
  split <;> simp [attachments_of_noPackageOnly c.env h]

/-- **C04 main theorem** -/
theorem packageonly_exact (cfg : Cfg) (c : WalkCtx) (ig : ISet) (p : Pkg) (dg : Diag) :
    dg ∈ checkPackageOnly cfg c ig p ↔ PkgoReported cfg c ig p dg := by
  unfold checkPackageOnly PkgoReported
  by_cases hno : c.env.noPackageOnly = true
  · have hempty : ∀ f : File, fileEvs c f = [] := fun f =>
      List.flatMap_eq_nil_iff.2 fun d _ => List.filterMap_eq_nil_iff.2 fun n _ => pkgoEv_of_noPackageOnly c hno n
    simp only [hno, if_true, List.not_mem_nil, false_iff, ← mem_runEvs_init]
    rintro ⟨f, _, _, h⟩
    rw [hempty f] at h
    exact absurd h List.not_mem_nil
  · simp only [hno, Bool.false_eq_true, if_false, mem_flatMap_filesToScan, ← mem_runEvs_init, pkgoFile_eq]

/-- **the allow-list of an item is the union of all its @packageonly lines**: membership does not depend on the
    order of the lines, on duplicates, or on which line names a package -/
theorem allow_union (e : Env) (pkg : Name) (k : AKind) (recv name x : Name) :
    x ∈ e.attachments pkg k recv name ↔
      ∃ pa ∈ e, pa.1 = pkg ∧ ∃ a ∈ pa.2.packageonly, a.kind = k ∧ a.name = name ∧ a.recv = recv ∧ x ∈ a.allowed := by
  simp only [Env.attachments, List.mem_flatMap, List.mem_ite_nil_right, Bool.and_eq_true, beq_iff_eq, and_assoc]

/-- a user package is allowed iff its import path or its package name is in that union -/
theorem allowed_iff (c : WalkCtx) (att : List Name) :
    pkgoAllowed c att = true ↔ (c.curPkg ∈ att ∨ c.curName ∈ att) := by
  simp [pkgoAllowed]

/-- items without the annotation are never reported -/
theorem unannotated_silent (c : WalkCtx) (att : List Name) (h : att = []) : forbidden c att = false := by
  simp [forbidden, h]

/-- the declaring package itself is always allowed: references inside D never produce an event -/
theorem declaring_always_allowed (c : WalkCtx) (n : Node) (t : Name) (h : n.kind = .selector (.typeName (some c.curPkg) t)) :
    pkgoEv c n = none := by
  simp [pkgoEv, h]

/-- every @packageonly annotation read from a doc line lists the declaring package first (so a bare
    `@packageonly` allows only D) -/
theorem bare_only_D (pkgPath : Name) (ts : TypeSpecInfo) (text : Bytes) (a : PkgOnlyAnn)
    (h : a ∈ (annOfTypeLine pkgPath ts text).packageonly) :
    ∃ extra, a.allowed = pkgPath :: extra ∧ Grammar.parsePackageOnly text = some extra := by
  unfold annOfTypeLine at h
  split at h
  · simp at h
  · simp only at h
    split at h
    · rename_i extra he
      simp only [List.mem_singleton] at h
      subst h
      exact ⟨extra, rfl, he⟩
    · simp at h

/-! ## Non-vacuity -/
def exEnv : Env := [(ascii "exp/u", {}), (ascii "exp/d", { packageonly :=
  [⟨.onType, ascii "H", [], [ascii "exp/d", ascii "okname"]⟩, ⟨.onType, ascii "H", [], [ascii "exp/d", ascii "exp/other"]⟩] })]
example : exEnv.attachments (ascii "exp/d") .onType [] (ascii "H") = [ascii "exp/d", ascii "okname", ascii "exp/d", ascii "exp/other"] := by decide +kernel
example : forbidden ⟨exEnv, ascii "exp/u", ascii "u"⟩ (exEnv.attachments (ascii "exp/d") .onType [] (ascii "H")) = true := by decide +kernel
example : forbidden ⟨exEnv, ascii "exp/x", ascii "okname"⟩ (exEnv.attachments (ascii "exp/d") .onType [] (ascii "H")) = false := by decide +kernel
example : forbidden ⟨exEnv, ascii "exp/other", ascii "o"⟩ (exEnv.attachments (ascii "exp/d") .onType [] (ascii "H")) = false := by decide +kernel

end GGV.Props.C04
