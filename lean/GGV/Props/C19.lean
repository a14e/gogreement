import GGV.Model.Excerpt
/-!
# C19 — Rendered excerpt shows the right line; the caret marks the reported column

All statements are for every byte string `s` (any length, tabs and multi-byte sequences are just
bytes), every display limit `M ≥ 4` (instantiated at the regenerated `Gen.maxLineLength`), every column.
-/
namespace GGV.Props.C19
open GGV.Model

theorem clampPos0_eq_natCast {len : Nat} (pos : Int) (h : 0 < len) : ∃ p : Nat, p < len ∧ clampPos0 len pos = p := by
  refine ⟨(clampPos0 len pos).toNat, ?_⟩
  unfold clampPos0; omega

theorem clampPos0_natCast_succ {len p : Nat} (h : p < len) : clampPos0 len (p + 1 : Nat) = p := by
  rw [clampPos0, if_neg (by omega), if_neg (by omega)]; omega

theorem length_dots : dots.length = 3 := rfl

theorem getElem?_dots_append (x : Bytes) (i : Nat) : (dots ++ x)[3 + i]? = x[i]? := by
  rw [List.getElem?_append_right (Nat.le_add_right 3 i)]
  exact congrArg (x[·]?) (Nat.add_sub_cancel_left 3 i)

section regimes
variable {s : Bytes} {M K p : Nat} {pos : Int}

theorem truncate_of_le (h : s.length ≤ M) : truncate s M pos = s := by
  rw [truncate, if_pos h]

theorem truncate_of_le_three (hs : M < s.length) (hM : M ≤ 3) : truncate s M pos = s.take M := by
  rw [truncate, if_neg (Nat.not_le.2 hs), if_pos hM]

/-- the three regimes of a line longer than the limit `K + 3`, by the clamped 0-based position `p`: `K` bytes are
    kept, from the start, up to the end, or around `p` -/
theorem truncate_eq (hp : clampPos0 s.length pos = p) (hs : K + 3 < s.length) (hK : 0 < K) :
    truncate s (K + 3) pos =
      if p < K then s.take K ++ dots
      else if s.length ≤ p + K then dots ++ s.drop (s.length - K)
      else dots ++ (s.drop (p - K / 2)).take K ++ dots := by
  rw [truncate, if_neg (by omega), if_neg (by omega), hp, Nat.add_sub_cancel]
  by_cases r : p < K
  · rw [if_pos r, if_pos (by omega)]
  rw [if_neg r, if_neg (by omega)]
  by_cases r2 : s.length ≤ p + K
  · rw [if_pos r2, if_pos (by omega), show s.length - (K + 3) + 3 = s.length - K by omega]
  rw [if_neg r2, if_neg (by omega)]
  simp only [Int.toNat_sub, ← Int.natCast_add, Int.toNat_natCast]
  -- with `p = i + K / 2` the bytes kept are those from `i` to `i + K`
  obtain ⟨i, rfl⟩ := Nat.exists_eq_add_of_le' (Nat.le_trans (Nat.div_le_self K 2) (Nat.le_of_not_lt r))
  rw [Nat.add_sub_cancel, Nat.add_assoc, Nat.add_sub_of_le (Nat.div_le_self K 2), Nat.min_eq_left (by omega),
    Nat.add_sub_cancel_left]

theorem displayCol_of_le (h : s.length ≤ M) : displayCol s pos M = pos := by
  rw [displayCol, if_pos h]

/-- the same regimes in `calculateDisplayColumn`, for a column inside the line: one more than the index at which
    `truncate_eq` shows byte `p` -/
theorem displayCol_eq (hs : K + 3 < s.length) (hp : p < s.length) :
    displayCol s (p + 1 : Nat) (K + 3) =
      ((if p < K then p else if s.length ≤ p + K then 3 + (p - (s.length - K)) else 3 + K / 2 : Nat) : Int) + 1 := by
  rw [displayCol, if_neg (Nat.not_le.2 hs), Int.natCast_add_one, Int.add_sub_cancel,
    if_neg (Int.not_lt.2 (Int.natCast_nonneg p)), if_neg (Int.not_le.2 (Int.ofNat_lt.2 hp))]
  by_cases r : p < K
  · rw [if_pos r, if_pos (by omega)]
  by_cases r2 : s.length ≤ p + K
  · rw [if_neg r, if_pos r2, if_neg (by omega), if_pos (by omega)]; omega
  · rw [if_neg r, if_neg r2, if_neg (by omega), if_neg (by omega), Nat.add_sub_cancel]; omega

end regimes

theorem slice?_of_le {s : Bytes} {a b : Int} (h : 0 ≤ a ∧ a ≤ b ∧ b ≤ s.length) :
    slice? s a b = some ((s.drop a.toNat).take (b.toNat - a.toNat)) :=
  if_pos h

/-- no slice expression of `truncateString` is ever out of range: the Go function cannot panic -/
theorem truncateG_total (s : Bytes) (M : Nat) (pos : Int) :
    truncateG s M pos = some (truncate s M pos) := by
  unfold truncateG truncate
  by_cases hs : s.length ≤ M
  · rw [if_pos hs, if_pos hs]
  rw [if_neg hs, if_neg hs]
  by_cases hM : M ≤ 3
  · rw [if_pos hM, if_pos hM, slice?_of_le (by omega)]
    rfl
  rw [if_neg hM, if_neg hM]
  generalize clampPos0 s.length pos = p0
  by_cases r1 : p0 < (M : Int) - 3
  · rw [if_pos r1, if_pos r1, slice?_of_le (by omega)]
    exact congrArg (fun n => some (s.take n ++ dots)) (Int.toNat_sub M 3)
  rw [if_neg r1, if_neg r1]
  by_cases r2 : p0 ≥ (s.length : Int) - M + 3
  · rw [if_pos r2, if_pos r2, slice?_of_le (by omega),
      show ((s.length : Int) - M + 3).toNat = s.length - M + 3 by omega, Int.toNat_natCast,
      List.take_of_length_le (Nat.le_of_eq List.length_drop)]
    rfl
  · rw [if_neg r2, if_neg r2]
    push_cast [Nat.le_of_not_le hM, Nat.div_le_self]
    have hb : 0 ≤ ((M : Int) - 3) / 2 ∧ ((M : Int) - 3) / 2 ≤ (M : Int) - 3 := by omega
    rw [if_neg (by omega), if_neg (by omega), slice?_of_le (by omega), Nat.min_eq_left (by omega)]
    rfl

/-- the display column is one more than the index at which the rendered line shows the byte of the reported column -/
theorem displayCol_spec (s : Bytes) (M col : Nat) (hM : 4 ≤ M) (h1 : 1 ≤ col) (h2 : col ≤ s.length) :
    ∃ d : Nat, displayCol s col M = d + 1 ∧ (truncate s M col)[d]? = s[col - 1]? := by
  by_cases hs : s.length ≤ M
  · exact ⟨col - 1, by rw [displayCol_of_le hs]; omega, by rw [truncate_of_le hs]⟩
  obtain ⟨K, rfl⟩ : ∃ K, M = K + 3 := ⟨M - 3, by omega⟩
  obtain ⟨p, rfl⟩ : ∃ p, col = p + 1 := ⟨col - 1, by omega⟩
  have hs : K + 3 < s.length := Nat.not_le.1 hs
  have hb : K / 2 < K := Nat.div_lt_self (by omega) (by decide)
  refine ⟨_, displayCol_eq hs h2, ?_⟩
  rw [truncate_eq (clampPos0_natCast_succ h2) hs (by omega), Nat.add_sub_cancel]
  by_cases r : p < K
  · rw [if_pos r, if_pos r, List.getElem?_append_left (by rw [List.length_take]; omega),
      List.getElem?_take_of_lt r]
  by_cases r2 : s.length ≤ p + K
  · rw [if_neg r, if_neg r, if_pos r2, if_pos r2, getElem?_dots_append, List.getElem?_drop,
      Nat.add_sub_of_le (by omega)]
  · rw [if_neg r, if_neg r, if_neg r2, if_neg r2, List.append_assoc, getElem?_dots_append,
      List.getElem?_append_left (by rw [List.length_take, List.length_drop]; omega),
      List.getElem?_take_of_lt hb, List.getElem?_drop, Nat.sub_add_cancel (by omega)]

/-- **the caret stands under the character at the reported column**, also after truncation -/
theorem caret_under_char (s : Bytes) (M : Nat) (col : Nat) (hM : 4 ≤ M)
    (h1 : 1 ≤ col) (h2 : col ≤ s.length) :
    (truncate s M col)[(displayCol s col M - 1).toNat]? = s[col - 1]? := by
  obtain ⟨d, hd, h⟩ := displayCol_spec s M col hM h1 h2
  rwa [hd, Int.add_sub_cancel]

/-- the display column stays inside the rendered line -/
theorem displayCol_bounds (s : Bytes) (M : Nat) (col : Nat) (hM : 4 ≤ M)
    (h1 : 1 ≤ col) (h2 : col ≤ s.length) :
    1 ≤ displayCol s col M ∧ displayCol s col M ≤ (truncate s M col).length := by
  obtain ⟨d, hd, h⟩ := displayCol_spec s M col hM h1 h2
  have := (List.getElem?_eq_some_iff.1 (h.trans (List.getElem?_eq_getElem (by omega)))).1
  omega

/-- the three regimes in detail: only the middle regime carries two ellipses -/
theorem truncate_len_exact (s : Bytes) (M : Nat) (pos : Int) (hM : 4 ≤ M) (hs : M < s.length) :
    (truncate s M pos).length = M ∨ (truncate s M pos).length = M + 3 := by
  obtain ⟨K, rfl⟩ : ∃ K, M = K + 3 := ⟨M - 3, by omega⟩
  obtain ⟨p, -, hc⟩ := clampPos0_eq_natCast pos (Nat.zero_lt_of_lt hs)
  rw [truncate_eq hc hs (by omega)]
  by_cases r : p < K
  · rw [if_pos r, List.length_append, List.length_take, Nat.min_eq_left (by omega)]
    exact .inl rfl
  by_cases r2 : s.length ≤ p + K
  · rw [if_neg r, if_pos r2, List.length_append, List.length_drop, length_dots]; omega
  · rw [if_neg r, if_neg r2, List.length_append, List.length_append, List.length_take, List.length_drop,
      Nat.min_eq_left (by omega), length_dots]
    omega

/-- an excerpt line is never longer than the display limit plus the two ellipsis markers -/
theorem truncate_len_le (s : Bytes) (M : Nat) (pos : Int) : (truncate s M pos).length ≤ M + 3 := by
  by_cases hs : s.length ≤ M
  · rw [truncate_of_le hs]; exact Nat.le_add_right_of_le hs
  by_cases hM : M ≤ 3
  · rw [truncate_of_le_three (Nat.not_le.1 hs) hM, List.length_take]; omega
  rcases truncate_len_exact s M pos (by omega) (by omega) with h | h <;> omega

/-- short lines are shown unchanged and the caret column is the reported column -/
theorem truncate_short (s : Bytes) (M : Nat) (pos : Int) (h : s.length ≤ M) :
    truncate s M pos = s ∧ displayCol s pos M = pos :=
  ⟨truncate_of_le h, displayCol_of_le h⟩

/-- the caret prefix has one byte per column before the caret … -/
theorem caret_prefix_len (t : Bytes) (d : Int) : (caretPrefix t d).length = (d - 1).toNat := by
  simp [caretPrefix]

/-- … and that byte is a tab exactly where the rendered line has a tab (same visual width under any tab stop) -/
theorem caret_prefix_tabs (t : Bytes) (d : Int) (j : Nat) (hj : j < (d - 1).toNat) :
    (caretPrefix t d)[j]? = some (if t[j]? = some 9 then 9 else 32) := by
  unfold caretPrefix
  rw [List.getElem?_map, List.getElem?_range hj]
  rfl

theorem mem_window {lines : List Bytes} {L : Int} {b a n : Nat} {t : Bytes} :
    (n, t) ∈ window lines L b a ↔ 1 ≤ n ∧ lines[n - 1]? = some t ∧ L - b ≤ n ∧ (n : Int) ≤ L + a := by
  unfold window
  by_cases hl : lines = []
  · subst hl; simp
  rw [if_neg hl]
  simp only []
  obtain ⟨A, hA⟩ : ∃ A : Nat, (if L - b - 1 < 0 then 0 else L - b - 1) = (A : Int) :=
    Int.eq_ofNat_of_zero_le (by omega)
  rw [hA, Int.toNat_natCast]
  by_cases hge : (A : Int) ≥ lines.length
  · rw [if_pos hge]
    simp only [List.not_mem_nil, false_iff]
    rintro ⟨h1, h2, h3, h4⟩
    have := (List.getElem?_eq_some_iff.1 h2).1
    omega
  rw [if_neg hge]
  simp only [List.mem_filterMap, List.mem_range, Option.map_eq_some_iff, Prod.mk.injEq]
  constructor
  -- each bound rests on one of the two clamps; `omega` splits on every `if` it is shown, so the other is cleared
  · rintro ⟨k, hk, _, h, rfl, rfl⟩
    have := (List.getElem?_eq_some_iff.1 h).1
    exact ⟨Nat.le_add_left 1 _, h, by clear hk; omega, by clear hA; omega⟩
  · rintro ⟨h1, h2, h3, h4⟩
    have := (List.getElem?_eq_some_iff.1 h2).1
    obtain ⟨k, rfl⟩ : ∃ k, n = A + k + 1 := ⟨n - 1 - A, by omega⟩
    exact ⟨k, by clear hA; omega, t, h2, rfl, rfl⟩

/-- every excerpt line is the source line with the number shown next to it, inside the context window -/
theorem window_sound (lines : List Bytes) (L : Int) (b a : Nat) (n : Nat) (t : Bytes)
    (h : (n, t) ∈ window lines L b a) :
    1 ≤ n ∧ lines[n - 1]? = some t ∧ L - b ≤ n ∧ (n : Int) ≤ L + a :=
  mem_window.1 h

/-- every line of the clamped window `max 1 (L-b) .. min |lines| (L+a)` is shown -/
theorem window_complete (lines : List Bytes) (L : Int) (b a : Nat) (n : Nat)
    (h1 : 1 ≤ n) (h2 : n ≤ lines.length) (h3 : L - b ≤ n) (h4 : (n : Int) ≤ L + a) :
    ∃ t, (n, t) ∈ window lines L b a ∧ lines[n - 1]? = some t :=
  have ⟨t, h⟩ : ∃ t, lines[n - 1]? = some t := ⟨_, List.getElem?_eq_getElem (by omega)⟩
  ⟨t, mem_window.2 ⟨h1, h, h3, h4⟩, h⟩

/-- the line numbered like the diagnostic is in the excerpt exactly when the file has such a line -/
theorem window_has_reported_line (lines : List Bytes) (L : Nat) (b a : Nat) :
    (∃ t, (L, t) ∈ window lines L b a) ↔ (1 ≤ L ∧ L ≤ lines.length) := by
  constructor
  · rintro ⟨t, h⟩
    obtain ⟨h1, h2, _, _⟩ := mem_window.1 h
    have := (List.getElem?_eq_some_iff.1 h2).1
    omega
  · rintro ⟨h1, h2⟩
    obtain ⟨t, ht, _⟩ := window_complete lines L b a L h1 h2 (by omega) (by omega)
    exact ⟨t, ht⟩

/-- unreadable file, empty file, or a position beyond the end of the file: the message degrades to its
    header line and the documentation link (no excerpt, no failure) -/
theorem no_excerpt (M b a : Nat) (url code msg : Bytes) (lines : List Bytes) (L C : Int)
    (h : lines = [] ∨ (lines.length : Int) ≤ L - b - 1) :
    render M b a url code msg lines L C
      = str "error: [" ++ code ++ str "] " ++ msg ++ [10] ++ str "   = help: " ++ url ++ [10] := by
  have hw : window lines L b a = [] := by
    refine List.eq_nil_iff_forall_not_mem.2 fun ⟨n, t⟩ hm => ?_
    obtain ⟨h1, h2, h3, _⟩ := mem_window.1 hm
    have := (List.getElem?_eq_some_iff.1 h2).1
    rcases h with rfl | h
    · exact Nat.not_lt_zero _ this
    · omega
  rw [render, hw]
  rfl

/-- **every message ends with the documentation link**, whether or not there is an excerpt -/
theorem render_help_link (M b a : Nat) (url code msg : Bytes) (lines : List Bytes) (L C : Int) :
    ∃ pre, render M b a url code msg lines L C = pre ++ str "   = help: " ++ url ++ [10] := by
  by_cases hw : window lines L b a = []
  · exact ⟨_, if_pos hw⟩
  · exact ⟨_, if_neg hw⟩

/-- every message begins with `error: [CODE] ` followed by the violation's own text -/
theorem render_header (M b a : Nat) (url code msg : Bytes) (lines : List Bytes) (L C : Int) :
    ∃ rest, render M b a url code msg lines L C = str "error: [" ++ code ++ str "] " ++ msg ++ [10] ++ rest := by
  unfold render
  generalize str "error: [" ++ code ++ str "] " ++ msg ++ [10] = header
  by_cases hw : window lines L b a = []
  · exact ⟨_, by simp only [if_pos hw, List.append_assoc header]; rfl⟩
  · exact ⟨_, by simp only [if_neg hw, List.append_assoc header]; rfl⟩

/-! ## Instantiation at the constants regenerated from /repo (T5) -/

theorem maxLineLength_ge_4 : 4 ≤ GGV.Gen.maxLineLength := by decide +kernel

theorem context_is_2_1 : GGV.Gen.contextBefore = 2 ∧ GGV.Gen.contextAfter = 1 := by decide +kernel

theorem caret_under_char_repo (s : Bytes) (col : Nat) (h1 : 1 ≤ col) (h2 : col ≤ s.length) :
    (truncate s GGV.Gen.maxLineLength col)[(displayCol s col GGV.Gen.maxLineLength - 1).toNat]? = s[col - 1]? :=
  caret_under_char s _ col maxLineLength_ge_4 h1 h2

/-! ## Non-vacuity and the repaired defect -/

/-- the F5 witness scaled down (limit 8, 12-byte line, column M-2 = 6): with the repaired `<` the caret is under byte 6 -/
example : (truncate [1,2,3,4,5,6,7,8,9,10,11,12] 8 6)[(displayCol [1,2,3,4,5,6,7,8,9,10,11,12] 6 8 - 1).toNat]?
    = some 6 := by decide +kernel

theorem natDigits_length (n : Nat) :
    (natDigits n).length = if n < 10 then 1 else (natDigits (n / 10)).length + 1 := by
  rw [natDigits]
  split <;> simp

/-- more digits are never needed for a smaller number -/
theorem natDigits_length_mono : ∀ (m n : Nat), n ≤ m → (natDigits n).length ≤ (natDigits m).length := by
  intro m
  induction m using Nat.strongRecOn with
  | _ m ih =>
    intro n hnm
    rw [natDigits_length n, natDigits_length m]
    by_cases hn : n < 10
    · rw [if_pos hn]
      by_cases hm : m < 10
      · rw [if_pos hm]; exact Nat.le_refl 1
      · rw [if_neg hm]; exact Nat.le_add_left 1 _
    · rw [if_neg hn, if_neg (by omega)]
      exact Nat.succ_le_succ (ih (m / 10) (by omega) (n / 10) (Nat.div_le_div_right hnm))

theorem le_foldl_max (l : List (Nat × Bytes)) (init : Nat) :
    init ≤ l.foldl (fun m p => max m p.1) init ∧ ∀ p ∈ l, p.1 ≤ l.foldl (fun m p => max m p.1) init := by
  induction l generalizing init with
  | nil => exact ⟨Nat.le_refl _, fun _ h => nomatch h⟩
  | cons a r ih =>
    obtain ⟨h1, h2⟩ := ih (max init a.1)
    refine ⟨Nat.le_trans (Nat.le_max_left ..) h1, fun p hp => ?_⟩
    rcases List.mem_cons.1 hp with rfl | hp
    · exact Nat.le_trans (Nat.le_max_right ..) h1
    · exact h2 p hp

/-- **gutter alignment**: with `w` the digit count of the largest line number of the excerpt, every numbered row
    `%*d | ` and the caret row `spaces | ` put the line's text at the same offset `w + 3` — so the caret, which stands
    `displayCol - 1` places into its row's text, is under byte `displayCol - 1` of the reported row's text
    (`caret_under_char`), whatever the line numbers (9 vs 10, 99 vs 100, …) -/
theorem gutter_aligned (win : List (Nat × Bytes)) (p : Nat × Bytes) (hp : p ∈ win) :
    let w := (natDigits (win.foldl (fun m q => max m q.1) 0)).length
    (padNum w p.1 ++ str " | ").length = (spaces w ++ str " | ").length := by
  intro w
  have hd : (natDigits p.1).length ≤ w := natDigits_length_mono _ _ ((le_foldl_max win 0).2 p hp)
  simp only [padNum, spaces, List.length_append, List.length_replicate]
  omega

end GGV.Props.C19
