import GGV.Lemmas.Walk
import GGV.Lemmas.Env
/-!
# C02 — @constructor is enforced exactly

`CtorReported` is the positional specification: a diagnostic exists exactly for every instantiation site
(composite literal, `new(T)`, value-less `var` name) in a non-excluded file whose defined type (aliases always,
pointer once) has a non-empty constructor list, unless the enclosing TOP-LEVEL declaration is a function of the
type's own package named in that list. `constructor_exact` proves the stateful walk equal to it for every
program (any nesting, declaration order, file, package-level initialisers).
-/
namespace GGV.Props.C02
open GGV.Model GGV.Model.Prog

/-- an instantiation site: the type it instantiates (if it is a defined type with a package), where and what is reported -/
structure Site where
  ti : Option (Name × Name)
  pos : Int
  code : String

/-- the instantiation sites a node offers, syntactically -/
def sites (n : Node) : List Site :=
  match n.kind with
  | .compLit ty => [⟨typeInfo ty, n.pos, "CTOR01"⟩]
  | .call (.ident name _) nargs arg0 =>
    if name == ascii "new" && nargs == 1 then [⟨typeInfo arg0, n.pos, "CTOR02"⟩] else []
  | .genVar specs =>
    specs.flatMap fun s =>
      if s.hasValues then [] else
      s.names.flatMap fun v => if v.name == ascii "_" then [] else [⟨varTypeInfo v.ty, v.pos, "CTOR03"⟩]
  | _ => []

/-- the specification -/
def CtorReported (cfg : Cfg) (c : WalkCtx) (p : Pkg) (dg : Diag) : Prop :=
  ∃ f ∈ p.files, shouldSkip cfg f.name = false ∧ ∃ d ∈ f.decls, ∃ n ∈ d.nodes, ∃ s ∈ sites n, ∃ pkg ty,
    s.ti = some (pkg, ty) ∧ c.env.ctorNames pkg ty ≠ [] ∧
    ¬ (c.curPkg = pkg ∧ d.enclosingFn ∈ c.env.ctorNames pkg ty) ∧ dg = ⟨s.pos, s.code⟩

def siteDiag (c : WalkCtx) (cur : Name) (s : Site) : List Diag := if ctorHit c cur s.ti then [⟨s.pos, s.code⟩] else []

theorem ctorVarSpec_eq (c : WalkCtx) (cur : Name) (s : VarSpec) :
    ctorVarSpec c cur s =
      (if s.hasValues then [] else
        s.names.flatMap fun v => if v.name == ascii "_" then [] else [(⟨varTypeInfo v.ty, v.pos, "CTOR03"⟩ : Site)]).flatMap
        (siteDiag c cur) := by
  unfold ctorVarSpec
  split
  · rfl
  · rw [List.flatMap_assoc]
    congr 1; funext v
    split <;> simp [siteDiag]

theorem ctorNode_eq_sites (c : WalkCtx) (cur : Name) (n : Node) :
    ctorNode c cur n = (sites n).flatMap (siteDiag c cur) := by
  unfold ctorNode sites
  cases n.kind with
  | compLit ty => simp [siteDiag]
  | call callee nargs arg0 =>
    cases callee with
    | ident name o => simp only [Bool.and_eq_true]; split <;> simp_all [siteDiag]
    | _ => rfl
  | genVar specs =>
    simp only [List.flatMap_assoc]
    congr 1; funext s
    exact ctorVarSpec_eq c cur s
  | _ => rfl

theorem ctorHit_iff (c : WalkCtx) (cur : Name) (ti : Option (Name × Name)) :
    ctorHit c cur ti = true ↔ ∃ pkg ty, ti = some (pkg, ty) ∧ c.env.ctorNames pkg ty ≠ [] ∧
      ¬ (c.curPkg = pkg ∧ cur ∈ c.env.ctorNames pkg ty) := by
  unfold ctorHit WalkCtx.inConstructor
  cases ti with
  | none => simp
  | some pt =>
    obtain ⟨pkg, ty⟩ := pt
    simp only [Bool.and_eq_true, Bool.not_eq_true', List.isEmpty_eq_false_iff, Bool.and_eq_false_iff, beq_eq_false_iff_ne,
      List.contains_eq_mem, decide_eq_false_iff_not, ← Decidable.not_and_iff_not_or_not]
    exact ⟨fun h => ⟨pkg, ty, rfl, h⟩, fun ⟨_, _, e, h⟩ => by cases e; exact h⟩

/-- **C02 main theorem**: the checker reports exactly the specified sites -/
theorem constructor_exact (cfg : Cfg) (c : WalkCtx) (p : Pkg) (hs : PkgShape p) (dg : Diag) :
    dg ∈ checkConstructor cfg c p ↔ CtorReported cfg c p dg := by
  unfold checkConstructor CtorReported
  by_cases hno : c.env.noConstructors = true
  · simp only [hno, if_true, List.not_mem_nil, false_iff]
    rintro ⟨f, _, _, d, _, n, _, s, _, pkg, ty, _, hne, _⟩
    exact hne (ctorNames_of_noConstructors c.env hno pkg ty)
  · simp only [hno, Bool.false_eq_true, if_false, mem_flatMap_scannedDecls]
    refine exists_congr fun f => and_congr_right fun hf => and_congr_right fun _ =>
      exists_congr fun d => and_congr_right fun hd => ?_
    simp only [ctorDecl_eq c d (hs f hf d hd), ctorNode_eq_sites, List.mem_flatMap, siteDiag, List.mem_ite_nil_right,
      List.mem_singleton, ctorHit_iff]
    refine exists_congr fun n => and_congr_right fun _ => exists_congr fun s => and_congr_right fun _ => ?_
    exact ⟨fun ⟨⟨pkg, ty, h1, h2, h3⟩, e⟩ => ⟨pkg, ty, h1, h2, h3, e⟩, fun ⟨pkg, ty, h1, h2, h3, e⟩ => ⟨⟨pkg, ty, h1, h2, h3⟩, e⟩⟩

/-- silent cases: a pointer-typed variable, the blank identifier, a `var` with initialiser offer no site -/
theorem constructor_silent_var (nm : VarName) (e : Ty) :
    varTypeInfo (some (.ptr e)) = none ∧
    sites ⟨.genVar [⟨false, [{ nm with name := ascii "_" }]⟩], 0, 0, 0, 0, 0⟩ = [] ∧
    sites ⟨.genVar [⟨true, [nm]⟩], 0, 0, 0, 0, 0⟩ = [] := by
  refine ⟨rfl, ?_, ?_⟩ <;> simp [sites]

/-- silent cases: a type without constructor annotation is never reported -/
theorem constructor_silent_unannotated (cfg : Cfg) (c : WalkCtx) (p : Pkg) (hs : PkgShape p) (dg : Diag)
    (h : dg ∈ checkConstructor cfg c p) :
    ∃ pkg ty, c.env.ctorNames pkg ty ≠ [] := by
  obtain ⟨_, _, _, _, _, _, _, _, _, pkg, ty, _, h2, _⟩ := (constructor_exact cfg c p hs dg).1 h
  exact ⟨pkg, ty, h2⟩

/-- silent cases: inside a listed constructor of the type's own package nothing is reported for that type -/
theorem constructor_silent_inside (c : WalkCtx) (cur pkg ty : Name)
    (h1 : c.curPkg = pkg) (h2 : cur ∈ c.env.ctorNames pkg ty) : ctorHit c cur (some (pkg, ty)) = false := by
  cases hb : ctorHit c cur (some (pkg, ty)) with
  | false => rfl
  | true =>
    obtain ⟨pkg', ty', e, _, h3⟩ := (ctorHit_iff c cur _).1 hb
    obtain ⟨rfl, rfl⟩ := e
    exact absurd ⟨h1, h2⟩ h3

/-- a function of ANOTHER package that merely shares a constructor's name is not exempt -/
theorem constructor_foreign_name_not_exempt (c : WalkCtx) (cur pkg ty : Name)
    (h1 : c.curPkg ≠ pkg) (h2 : c.env.ctorNames pkg ty ≠ []) : ctorHit c cur (some (pkg, ty)) = true :=
  (ctorHit_iff c cur _).2 ⟨pkg, ty, rfl, h2, fun h => h1 h.1⟩

/-- every constructor-list spelling the grammar accepts yields the same name list for the index -/
theorem ctor_names_from_grammar (pkgPath : Name) (ts : TypeSpecInfo) (text : Bytes) (names : List Name)
    (h : Grammar.parseConstructor text = some names) (hp : Grammar.prefilterAnnotations text = true) :
    (annOfTypeLine pkgPath ts text).constructors = [(ts.name, names)] := by
  simp [annOfTypeLine, hp, h]

/-! ## Non-vacuity: a concrete program with a violation outside and an instantiation inside the constructor -/
def exEnv : Env := [(ascii "exp/a", { constructors := [(ascii "T", [ascii "NewT"])] })]
def exCtx : WalkCtx := ⟨exEnv, ascii "exp/a", ascii "a"⟩
def exTy : Option Ty := some (.ptr (.alias (some (ascii "exp/a")) (ascii "A") (.named (some (ascii "exp/a")) (ascii "T"))))
def exDeclCtor : Decl := ⟨.func (ascii "NewT") none none, 10, 50, 3, [⟨.funcDecl (ascii "NewT"), 10, 50, 1, 3, 1⟩, ⟨.compLit exTy, 30, 40, 2, 2, 0⟩]⟩
def exDeclVar : Decl := ⟨.gen (ascii "var") none [], 60, 90, 5, [⟨.genVar [⟨true, [⟨ascii "G", 64, none⟩]⟩], 60, 90, 5, 5, 1⟩, ⟨.compLit exTy, 70, 80, 5, 5, 0⟩]⟩
example : ctorDecl exCtx exDeclCtor = [] := by decide +kernel
example : ctorDecl exCtx exDeclVar = [⟨70, "CTOR01"⟩] := by decide +kernel

/-! ## grouped `var ( … )` declarations: every spec is judged on its own -/

/-- an initialised spec offers no CTOR03 site, wherever it stands in the group -/
theorem initialised_spec_silent (c : WalkCtx) (cur : Name) (s : VarSpec) (h : s.hasValues = true) :
    ctorVarSpec c cur s = [] := by
  unfold ctorVarSpec; simp [h]

/-- the diagnostics of a group are the concatenation of the diagnostics of its specs: a spec neither hides nor
    changes what the specs after it contribute -/
theorem var_group_by_spec (c : WalkCtx) (cur : Name) (s1 s2 : List VarSpec) (pos stop sl el : Int) (sz : Nat) :
    ctorNode c cur ⟨.genVar (s1 ++ s2), pos, stop, sl, el, sz⟩ =
      ctorNode c cur ⟨.genVar s1, pos, stop, sl, el, sz⟩ ++ ctorNode c cur ⟨.genVar s2, pos, stop, sl, el, sz⟩ := by
  simp only [ctorNode, List.flatMap_append]

/-- in particular an initialised spec in front of a zero-valued one changes nothing -/
theorem var_group_skip_initialised (c : WalkCtx) (cur : Name) (s : VarSpec) (rest : List VarSpec) (h : s.hasValues = true)
    (pos stop sl el : Int) (sz : Nat) :
    ctorNode c cur ⟨.genVar (s :: rest), pos, stop, sl, el, sz⟩ = ctorNode c cur ⟨.genVar rest, pos, stop, sl, el, sz⟩ := by
  simp only [ctorNode, List.flatMap_cons, initialised_spec_silent c cur s h, List.nil_append]

example : ctorNode exCtx [] ⟨.genVar [⟨true, [⟨ascii "i", 61, none⟩]⟩, ⟨false, [⟨ascii "z", 66, some (.named (some (ascii "exp/a")) (ascii "T"))⟩]⟩], 60, 90, 5, 5, 0⟩
    = [⟨66, "CTOR03"⟩] := by decide +kernel

end GGV.Props.C02
