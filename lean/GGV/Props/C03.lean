import GGV.Lemmas.Walk
import GGV.Lemmas.Env
import GGV.Lemmas.Dedup
/-!
# C03 — @testonly is enforced exactly

The walk of `CheckTestOnly` (pruning of @testonly declarations, suppression test before the once-per-file
deduplication) is proven equal to a declarative description: per non-test file, over the uses in source
(preorder) order outside @testonly declarations, every unsuppressed call of a @testonly function / method is
reported, and for each @testonly type exactly its first unsuppressed use.
-/
namespace GGV.Props.C03
open GGV.Model GGV.Model.Prog

abbrev Key := Name × Name

/-- what a node contributes when visited -/
def tonlEv (c : WalkCtx) (n : Node) : Option (Ev Key) :=
  match n.kind with
  | .call callee _ _ => (tonlCall c callee).map fun code => .plain ⟨n.pos, code⟩
  | .compLit ty => (tonlTypeUse c ty).map fun k => .keyed k ⟨n.pos, "TONL01"⟩
  | .valueSpec ty => (tonlTypeUse c ty).map fun k => .keyed k ⟨n.pos, "TONL01"⟩
  | .field ty => (tonlTypeUse c ty).map fun k => .keyed k ⟨n.pos, "TONL01"⟩
  | _ => none

/-- the uses of a declaration: none if the declaration itself is @testonly -/
def declEvs (c : WalkCtx) (d : Decl) : List (Ev Key) :=
  if inTestOnlyContext c d then [] else d.nodes.filterMap (tonlEv c)

def fileEvs (c : WalkCtx) (f : File) : List (Ev Key) := f.decls.flatMap (declEvs c)

def sup (ig : ISet) (d : Diag) : Bool := ig.contains d.code d.pos

def toD (s : TonlState) : DState Key := ⟨s.reported, s.out⟩

theorem toD_injective : Function.Injective toD := fun ⟨_, _⟩ ⟨_, _⟩ h => by cases h; rfl

/-- visiting a node is applying the event it offers -/
theorem tonlNode_eq (c : WalkCtx) (ig : ISet) (s : TonlState) (n : Node) :
    toD (tonlNode c ig s n) = (tonlEv c n).elim (toD s) (applyEv (sup ig) (toD s)) := by
  have keyed : ∀ ty, toD (match tonlTypeUse c ty with
      | none => s
      | some key =>
        if ig.contains "TONL01" n.pos then s
        else if s.reported.contains key then s
        else { reported := s.reported ++ [key], out := s.out ++ [⟨n.pos, "TONL01"⟩] }) =
      ((tonlTypeUse c ty).map fun k => Ev.keyed k ⟨n.pos, "TONL01"⟩).elim (toD s) (applyEv (sup ig) (toD s)) := by
    intro ty
    cases tonlTypeUse c ty with
    | none => rfl
    | some key =>
      simp only [Option.map_some, Option.elim_some, applyEv, sup, toD]
      by_cases hi : ig.contains "TONL01" n.pos = true
      · simp [hi]
      · by_cases hr : key ∈ s.reported <;> simp [hi, hr]
  unfold tonlNode tonlEv
  cases hk : n.kind with
  | call callee a b =>
    simp only
    cases hc : tonlCall c callee with
    | none => rfl
    | some code =>
      simp only [Option.map_some, Option.elim_some, applyEv, sup, toD]
      by_cases hi : ig.contains code n.pos = true <;> simp [hi]
  | compLit ty => exact keyed ty
  | valueSpec ty => exact keyed ty
  | field ty => exact keyed ty
  | _ => rfl

/-- the head FuncDecl node spans the whole declaration (its descendants are all the other nodes); part of what
    `declWF` (`Run/Apf.lean`) evaluates on every input -/
def DeclSized (d : Decl) : Prop := ∀ h, d.nodes.head? = some h → h.size = d.nodes.tail.length

theorem tonlEv_funcDecl (c : WalkCtx) (n : Node) (h : n.isFuncDecl = true) : tonlEv c n = none := by
  obtain ⟨name, hk⟩ := Node.isFuncDecl_iff.1 h
  simp only [tonlEv, hk]

/-- one declaration: pruned entirely if it is @testonly, else every node is visited -/
theorem tonlWalk_decl (c : WalkCtx) (ig : ISet) (s : TonlState) (d : Decl) (hs : DeclShape d) (hz : DeclSized d) :
    toD (tonlWalk c ig (inTestOnlyContext c d) s 0 d.nodes) = runEvs (sup ig) (toD s) (declEvs c d) := by
  have visit : ∀ (prune : Bool) (s : TonlState) (ns : List Node), (∀ n ∈ ns, n.isFuncDecl = false) →
      toD (pruneWalk (tonlStep c ig prune) s 0 ns) = runEvs (sup ig) (toD s) (ns.filterMap (tonlEv c)) := by
    intro prune s ns h
    rw [pruneWalk_noPrune _ (tonlNode c ig) s ns fun s n hn => tonlStep_other c ig prune s (h n hn)]
    exact foldl_eq_runEvs_filterMap toD _ _ _ ns (tonlNode_eq c ig) s
  obtain ⟨h, r, hn, hr, hh⟩ := hs.nodes_eq
  rw [tonlWalk_eq, declEvs, hn]
  split at hh
  · have hf := Node.isFuncDecl_iff.2 ⟨_, hh⟩
    rw [pruneWalk, tonlStep_funcDecl c ig _ s hf, List.filterMap_cons, tonlEv_funcDecl c h hf]
    split
    · exact congrArg toD (pruneWalk_skipAll _ s _ r (by rw [hz h (by rw [hn]; rfl), hn]; exact Nat.le_refl _))
    · exact visit _ s r hr
  · rename_i hi
    rw [show inTestOnlyContext c d = false by simp only [inTestOnlyContext, hi]]
    exact visit _ s (h :: r) (List.forall_mem_cons.2 ⟨hh, hr⟩)

theorem tonlFile_eq (c : WalkCtx) (ig : ISet) (f : File)
    (hs : ∀ d ∈ f.decls, DeclShape d) (hz : ∀ d ∈ f.decls, DeclSized d) :
    tonlFile c ig f = if testSuffix.isSuffixOf f.name then [] else (runEvs (sup ig) {} (fileEvs c f)).out := by
  unfold tonlFile fileEvs
  split
  · rfl
  · exact congrArg DState.out (foldl_eq_runEvs toD (sup ig) _ (declEvs c) f.decls
      (fun s d hd => tonlWalk_decl c ig s d (hs d hd) (hz d hd)) {})

/-- the specification of C03 for one package -/
def TonlReported (cfg : Cfg) (c : WalkCtx) (ig : ISet) (p : Pkg) (dg : Diag) : Prop :=
  ∃ f ∈ p.files, shouldSkip cfg f.name = false ∧ testSuffix.isSuffixOf f.name = false ∧
    ((Ev.plain dg ∈ fileEvs c f ∧ sup ig dg = false) ∨ ∃ k, FirstUnsuppressed (sup ig) (fileEvs c f) k dg)

theorem noTestOnly_evs (c : WalkCtx) (h : c.env.noTestOnly = true) (n : Node) : tonlEv c n = none := by
  obtain ⟨ht, hf, hm⟩ := testOnly_of_noTestOnly c.env h
  have hcall : ∀ callee, tonlCall c callee = none := by
    intro callee
    unfold tonlCall
    split <;> simp only [hf, hm, Bool.false_eq_true, if_false]
    split <;> rfl
  have htu : ∀ ty, tonlTypeUse c ty = none := by
    intro ty
    unfold tonlTypeUse
    split <;> simp only [ht, Bool.false_eq_true, if_false]
  unfold tonlEv
  split <;> simp only [hcall, htu, Option.map_none]

/-- **C03 main theorem** -/
theorem testonly_exact (cfg : Cfg) (c : WalkCtx) (ig : ISet) (p : Pkg)
    (hs : PkgShape p) (hz : ∀ f ∈ p.files, ∀ d ∈ f.decls, DeclSized d) (dg : Diag) :
    dg ∈ checkTestOnly cfg c ig p ↔ TonlReported cfg c ig p dg := by
  unfold checkTestOnly TonlReported
  by_cases hno : c.env.noTestOnly = true
  · have hempty : ∀ f : File, fileEvs c f = [] := fun f =>
      List.flatMap_eq_nil_iff.2 fun d _ => by
        unfold declEvs
        split
        · rfl
        · exact List.filterMap_eq_nil_iff.2 fun n _ => noTestOnly_evs c hno n
    simp only [hno, if_true, List.not_mem_nil, false_iff, ← mem_runEvs_init]
    rintro ⟨f, _, _, _, h⟩
    rw [hempty f] at h
    exact absurd h List.not_mem_nil
  · simp only [hno, Bool.false_eq_true, if_false, mem_flatMap_filesToScan, ← mem_runEvs_init]
    refine exists_congr fun f => and_congr_right fun hf => and_congr_right fun _ => ?_
    rw [tonlFile_eq c ig f (hs f hf) (hz f hf)]
    cases testSuffix.isSuffixOf f.name <;> simp

/-- test files never receive TONL diagnostics, whatever the configuration -/
theorem testonly_test_files_silent (c : WalkCtx) (ig : ISet) (f : File) (h : testSuffix.isSuffixOf f.name = true) :
    tonlFile c ig f = [] := by
  simp [tonlFile, h]

/-- the body (and signature) of a declaration that is itself @testonly contributes nothing -/
theorem testonly_context_prune (c : WalkCtx) (d : Decl) (h : inTestOnlyContext c d = true) : declEvs c d = [] := by
  simp [declEvs, h]

/-- an identifier that merely shares a name with a @testonly function (a local closure, a parameter, a method)
    is not a call of it: only a resolved package-level function counts -/
theorem testonly_same_name_not_reported (c : WalkCtx) (name : Name) (o : Obj)
    (h : ∀ p n, o ≠ .func (some p) n) : tonlCall c (.ident name o) = none := by
  unfold tonlCall
  split <;> simp_all

/-- the reported TONL01 is the first unsuppressed use of its type in the file: no earlier use of the same type is unsuppressed -/
theorem testonly_first_use (sp : Diag → Bool) (evs : List (Ev Key)) (k : Key) (d : Diag)
    (h : FirstUnsuppressed sp evs k d) :
    ∃ a b, evs = a ++ Ev.keyed k d :: b ∧ sp d = false ∧ ∀ d', Ev.keyed k d' ∈ a → sp d' = true := h

end GGV.Props.C03
