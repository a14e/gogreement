import GGV.Props.C16
import GGV.Props.C19
import GGV.Props.C14
import GGV.Props.C07
/-!
# C17 — Every diagnostic is well-formed, documented, suppressible by the code it shows

Table facts are decided over the tables regenerated from /repo on every run (T1 code table, T2 documentation
URLs + book pages, T3 codes referenced per checker package, T8 documented table of the book).
-/
namespace GGV.Props.C17
open GGV.Model GGV.Model.Prog

/-- the 16 codes the checkers can emit are exactly the documented table of the book, in the same order -/
theorem codes_documented : allCodes GGV.Gen.codesByCategory = GGV.Gen.documentedCodes.map (·.1) := by decide +kernel

/-- the documented table is the one the property names -/
theorem codes_are_the_sixteen : allCodes GGV.Gen.codesByCategory =
    ["IMM01", "IMM02", "IMM03", "IMM04", "CTOR01", "CTOR02", "CTOR03", "TONL01", "TONL02", "TONL03",
     "PKGO01", "PKGO02", "PKGO03", "IMPL01", "IMPL02", "IMPL03"] := by decide +kernel

/-- every code links to its category's documentation page, and that page exists in the book -/
theorem doc_url_by_category :
    GGV.Gen.docShapeOK = true ∧
    GGV.Gen.codesByCategory.all (fun e => e.2.all (fun c =>
      match GGV.Gen.docCases.find? (fun k => k.1 == e.1) with
      | some k => docPage c.1 == k.2 && GGV.Gen.bookPages.contains k.2
      | none => false)) = true := by decide +kernel

def categoryOfChecker : String → String
  | "immutable" => "IMM"
  | "constructor" => "CTOR"
  | "testonly" => "TONL"
  | "packageonly" => "PKGO"
  | "implements" => "IMPL"
  | _ => "?"

/-- every checker package references exactly the codes of its own category -/
theorem analyzer_owns_category :
    GGV.Gen.checkerCodes.all (fun pc =>
      match GGV.Gen.codesByCategory.find? (fun e => e.1 == categoryOfChecker pc.1) with
      | some e => pc.2 == e.2.map (·.1)
      | none => false) = true := by decide +kernel

/-- the five checkers are the analyzers of the five categories -/
theorem five_checkers : GGV.Gen.checkerCodes.map (·.1) = ["immutable", "constructor", "testonly", "packageonly", "implements"] := by decide +kernel

/-- every message starts with `error: [CODE] ` for the code the violation carries: the same value that is
    passed to the ignore set (one `GetCode()` feeds both) -/
theorem render_header (M b a : Nat) (url code msg : Bytes) (lines : List Bytes) (L C : Int) :
    ∃ rest, render M b a url code msg lines L C = str "error: [" ++ code ++ str "] " ++ msg ++ [10] ++ rest :=
  C19.render_header M b a url code msg lines L C

/-- **appending `// @ignore CODE` to the diagnostic's line removes it**: if the package's markers contain one whose
    codes include the diagnostic's code and whose range covers its position (the inline range
    [line start, end of comment] does, by `C07.scope_line`), the report filter drops it -/
theorem inline_ignore_removes (cfg : Cfg) (p : Pkg) (hv : C07.PosValid p) (raw : List Diag) (d : Diag) (m : Marker)
    (hm : Op.add m ∈ ignoreOps cfg p) (hc : d.code ∈ m.codes) (hr : m.start ≤ d.pos ∧ d.pos ≤ m.stop) :
    d ∉ raw.filter (fun d => !(readIgnores cfg p).contains d.code d.pos) :=
  fun h => ((C07.ignore_exact_report cfg p hv raw d).1 h).2
    ⟨d.code, C16.mem_hierOf_self _ _, .inr ⟨m, hm, hc, hr⟩⟩

/-- … and nothing else: a diagnostic that no marker covers-and-matches and no excluded check matches stays -/
theorem inline_ignore_keeps_others (cfg : Cfg) (p : Pkg) (hv : C07.PosValid p) (raw : List Diag) (d : Diag) (hd : d ∈ raw)
    (h : ¬ C16.Suppressed hier (ignoreOps cfg p) d.code d.pos) :
    d ∈ raw.filter (fun d => !(readIgnores cfg p).contains d.code d.pos) :=
  (C07.ignore_exact_report cfg p hv raw d).2 ⟨hd, h⟩

/-- every diagnostic is positioned inside a non-excluded file of the package being analysed -/
theorem diag_in_pkg_file (cfg : Cfg) (facts : List (Name × Annotations)) (p : Pkg)
    (hs : PkgShape p) (hz : ∀ f ∈ p.files, ∀ d ∈ f.decls, C03.DeclSized d) (dg : Diag)
    (h : dg ∈ (analyze cfg facts p).diags) :
    ∃ f ∈ p.files, shouldSkip cfg f.name = false ∧ dg.pos ∈ C14.filePositions f :=
  C14.no_diag_in_excluded cfg facts p hs hz dg h

end GGV.Props.C17
