import GGV.Lemmas.Grammar
import GGV.Lemmas.GrammarList
import GGV.Lemmas.Attach
/-!
# C15 — The annotation grammar is exactly the documented one

For all byte strings. The recognisers (`GGV.Model.Grammar`) are tied to the regexes by the bounded-exhaustive
+ fuzz `gram` correspondence; these theorems relate them to the documented grammar.
-/
namespace GGV.Props.C15
open GGV.Model GGV.Model.Grammar

/-- the documented shape of a no-argument annotation line:
    blanks, `//`, blanks, the exact lowercase keyword, then nothing or blank + free text -/
def RecognisedBare (kw line : Bytes) : Prop :=
  ∃ w1 w2 t, AllWs w1 ∧ AllWs w2 ∧ line = w1 ++ slashes ++ w2 ++ kw ++ t ∧ TailOK t

/-- **no-argument keywords: recognised iff documented shape** (for `@immutable`, `@testonly`, `@mutable`) -/
theorem recogniseBare_iff (kw line : Bytes) (hkw : IsKw kw) :
    recogniseBare kw line = true ↔ RecognisedBare kw line := by
  rw [recogniseBare_eq_true]
  constructor
  · rintro ⟨t, hl, ht⟩
    obtain ⟨w1, w2, h1, h2, e⟩ := (lead_iff hkw).1 hl
    exact ⟨w1, w2, t, h1, h2, e, tailOk_iff.1 ht⟩
  · rintro ⟨w1, w2, t, h1, h2, e, ht⟩
    exact ⟨t, (lead_iff hkw).2 ⟨w1, w2, h1, h2, e⟩, tailOk_iff.2 ht⟩

theorem kw_immutable : IsKw kwImmutable := isKw_ascii _
theorem kw_testonly : IsKw kwTestonly := isKw_ascii _
theorem kw_mutable : IsKw kwMutable := isKw_ascii _
theorem kw_constructor : IsKw kwConstructor := isKw_ascii _
theorem kw_packageonly : IsKw kwPackageonly := isKw_ascii _
theorem kw_ignore : IsKw kwIgnore := isKw_ascii _
theorem kw_implements : IsKw kwImplements := isKw_ascii _

theorem isKw_of_mem : ∀ kw ∈ [kwImplements, kwConstructor, kwImmutable, kwTestonly, kwMutable, kwPackageonly], IsKw kw := by
  simp only [List.forall_mem_cons, kw_implements, kw_constructor, kw_immutable, kw_testonly, kw_mutable, kw_packageonly,
    List.not_mem_nil, false_imp_iff, implies_true, and_self]

theorem recognise_iff_immutable (line : Bytes) :
    recogniseBare kwImmutable line = true ↔ RecognisedBare kwImmutable line :=
  recogniseBare_iff _ _ kw_immutable
theorem recognise_iff_testonly (line : Bytes) :
    recogniseBare kwTestonly line = true ↔ RecognisedBare kwTestonly line :=
  recogniseBare_iff _ _ kw_testonly
theorem recognise_iff_mutable (line : Bytes) :
    recogniseBare kwMutable line = true ↔ RecognisedBare kwMutable line :=
  recogniseBare_iff _ _ kw_mutable

/-- the line begins (after `//` and blanks) with the exact keyword followed by end of line or a blank -/
def BeginsWithKeyword (kw line : Bytes) : Prop :=
  ∃ w1 w2 t, AllWs w1 ∧ AllWs w2 ∧ line = w1 ++ slashes ++ w2 ++ kw ++ t ∧
    (t = [] ∨ ∃ b t', t = b :: t' ∧ isWs b = true)

theorem beginsWithKeyword_of_lead {kw line t : Bytes} (hkw : IsKw kw) (hl : lead kw line = some t)
    (ht : ∀ b t', t = b :: t' → isWs b = true) : BeginsWithKeyword kw line := by
  obtain ⟨w1, w2, h1, h2, e⟩ := (lead_iff hkw).1 hl
  refine ⟨w1, w2, t, h1, h2, e, ?_⟩
  cases t with
  | nil => exact .inl rfl
  | cons b t' => exact .inr ⟨b, t', rfl, ht b t' rfl⟩

/-- **keyword exactness for list annotations**: whenever `@constructor` / `@packageonly` / `@ignore` is
    recognised at all, the line begins with the exact keyword followed by end of line or a blank
    (other letter case, longer words, mid-sentence mentions, block comments are inert) -/
theorem keyword_exact_list (kw : Bytes) (hkw : IsKw kw) (k : IdClass) (line : Bytes) (r : List Bytes)
    (h : recogniseList kw k line = some r) : BeginsWithKeyword kw line := by
  obtain ⟨t, hl, ⟨ht, _⟩ | ⟨b, t', _, _, rfl, hb, _⟩⟩ := recogniseList_some h
  · exact beginsWithKeyword_of_lead hkw hl (tailOk_head ht)
  · exact beginsWithKeyword_of_lead hkw hl fun _ _ e => (List.cons.inj e).1 ▸ hb

theorem keyword_exact_implements (line : Bytes) (r : Bool × Bytes × Bytes)
    (h : parseImplements line = some r) : BeginsWithKeyword kwImplements line := by
  unfold parseImplements at h
  split at h
  · cases h
  · cases h
  · next b t hl =>
    refine beginsWithKeyword_of_lead kw_implements hl fun _ _ e => ?_
    cases e
    exact Decidable.by_contra fun hb => by simp [hb] at h

theorem keyword_exact_bare (kw : Bytes) (hkw : IsKw kw) (line : Bytes)
    (h : recogniseBare kw line = true) : BeginsWithKeyword kw line := by
  obtain ⟨t, hl, ht⟩ := recogniseBare_eq_true.1 h
  exact beginsWithKeyword_of_lead hkw hl (tailOk_head ht)

/-- **list soundness**: whenever a list annotation is recognised with at least one item, the line *is*
    blanks `//` blanks `@K` blanks `ID₀ (blanks , blanks IDᵢ)*` followed by a text after which the line may finish,
    and the items returned are exactly `ID₀ … IDₙ` in order. Together with `list_complete` this makes the recogniser
    the documented grammar for list arguments (the only freedom is where a backtracking match ends the list:
    at the last item after which the line can finish). -/
theorem list_sound (kw : Bytes) (hkw : IsKw kw) (k : IdClass) (line : Bytes) (n : Bytes) (ns : List Bytes)
    (h : recogniseList kw k line = some (n :: ns)) :
    ∃ w1 w2 ws id0 more trail, AllWs w1 ∧ AllWs w2 ∧ AllWs ws ∧ ws ≠ [] ∧ ValidId k id0 ∧ WfItems k more ∧
      acceptAfter trail = true ∧
      line = w1 ++ slashes ++ w2 ++ kw ++ (ws ++ (id0 ++ (sepText more ++ trail))) ∧
      n :: ns = id0 :: more.map (·.2.2) := by
  obtain ⟨_, hl, ⟨_, hnil⟩ | ⟨b, t, id0, r0, rfl, hb, hp, hc⟩⟩ := recogniseList_some h
  · cases hnil
  · obtain ⟨w1, w2, h1, h2, e⟩ := (lead_iff hkw).1 hl
    obtain ⟨ws, hne, hws, e2⟩ := dropWs_spec_cons t hb
    obtain ⟨e3, hv⟩ := parseId_some hp
    obtain ⟨more, trail, hw, hacc, rfl, hn⟩ := chain_longest hc
    exact ⟨w1, w2, ws, id0, more, trail, h1, h2, hws, hne, hv, hw, hacc, by rw [e, e2, e3], hn⟩

theorem constructor_sound (line : Bytes) (names : List Bytes) (h : parseConstructor line = some names) :
    ∃ w1 w2 ws id0 more trail, AllWs w1 ∧ AllWs w2 ∧ AllWs ws ∧ ws ≠ [] ∧ ValidId goIdent id0 ∧ WfItems goIdent more ∧
      acceptAfter trail = true ∧
      line = w1 ++ slashes ++ w2 ++ kwConstructor ++ (ws ++ (id0 ++ (sepText more ++ trail))) ∧
      names = id0 :: more.map (·.2.2) := by
  obtain ⟨hne, hr⟩ := parseConstructor_eq_some.1 h
  obtain ⟨n, ns, rfl⟩ := List.exists_cons_of_ne_nil hne
  exact list_sound kwConstructor kw_constructor goIdent line n ns hr

/-- **argument well-formedness**: every captured name is an identifier of the keyword's class
    (Go identifier / package path token / alphanumeric code), and the capture is non-empty or absent -/
theorem list_names_valid (kw : Bytes) (k : IdClass) (line : Bytes) (names : List Bytes)
    (h : recogniseList kw k line = some names) : ∀ n ∈ names, ValidId k n := by
  obtain ⟨_, _, ⟨_, rfl⟩ | ⟨_, _, id0, r0, _, _, hp, hc⟩⟩ := recogniseList_some h
  · nofun
  · obtain ⟨more, _, hw, _, _, rfl⟩ := chain_longest hc
    intro n hn
    rcases List.mem_cons.1 hn with rfl | hn
    · exact (parseId_some hp).2
    · obtain ⟨x, hx, rfl⟩ := List.mem_map.1 hn
      exact (hw x hx).2.2

/-- `@constructor` needs at least one Go identifier; every name it yields is one -/
theorem constructor_names (line : Bytes) (names : List Bytes) (h : parseConstructor line = some names) :
    names ≠ [] ∧ ∀ n ∈ names, ValidId goIdent n :=
  (parseConstructor_eq_some.1 h).imp_right (list_names_valid _ _ _ _)

theorem upperAscii_codeTok (x : UInt8) (hx : codeTok.rest x = true) :
    (65 ≤ upperAscii x ∧ upperAscii x ≤ 90) ∨ (48 ≤ upperAscii x ∧ upperAscii x ≤ 57) := by
  simp only [codeTok, isAlpha, isDigit, Bool.or_eq_true, Bool.and_eq_true, decide_eq_true_eq] at hx
  unfold upperAscii
  split
  · next hl =>
    simp only [Bool.and_eq_true, decide_eq_true_eq] at hl
    rw [UInt8.le_iff_toNat_le, UInt8.le_iff_toNat_le, UInt8.toNat_sub_of_le x 32 (UInt8.le_trans (by decide) hl.1)]
    exact .inl ⟨Nat.le_sub_of_add_le (UInt8.le_iff_toNat_le.1 hl.1), Nat.sub_le_of_le_add (UInt8.le_iff_toNat_le.1 hl.2)⟩
  · next hl =>
    simp only [Bool.and_eq_true, decide_eq_true_eq] at hl
    rcases hx with (h | h) | h
    · exact .inl h
    · exact absurd h hl
    · exact .inr h

/-- `@ignore` needs at least one code; codes come out upper-cased -/
theorem ignore_codes_upper (line : Bytes) (codes : List Bytes) (h : parseIgnore line = some codes) :
    codes ≠ [] ∧ ∀ c ∈ codes, c ≠ [] ∧ ∀ b ∈ c, (65 ≤ b ∧ b ≤ 90) ∨ (48 ≤ b ∧ b ≤ 57) := by
  obtain ⟨names, hne, hr, rfl⟩ := parseIgnore_eq_some.1 h
  refine ⟨mt List.map_eq_nil_iff.1 hne, fun c hc => ?_⟩
  obtain ⟨c0, hc0, rfl⟩ := List.mem_map.1 hc
  obtain ⟨b0, r0, rfl, hs, hr0⟩ := list_names_valid _ _ _ _ hr c0 hc0
  refine ⟨List.cons_ne_nil _ _, fun b hb => ?_⟩
  obtain ⟨x, hx, rfl⟩ := List.mem_map.1 hb
  -- `codeTok.start` and `codeTok.rest` are the same class
  exact upperAscii_codeTok x ((List.forall_mem_cons (p := fun c => codeTok.rest c = true)).2 ⟨hs, hr0⟩ x hx)

/-- the pre-filter can only drop lines the grammar rejects: a line with the keyword's lead contains it -/
theorem prefilter_complete (kw line t : Bytes) (hkw : IsKw kw) (h : lead kw line = some t) :
    isInfix kw line = true := by
  obtain ⟨w1, w2, _, _, e⟩ := (lead_iff hkw).1 h
  exact isInfix_iff.2 ⟨w1 ++ slashes ++ w2, t, e.symm⟩

/-- near-misses are inert: if the text after `//` and blanks does not start with the exact keyword,
    no recogniser for that keyword fires -/
theorem near_miss_inert (kw line : Bytes) (hkw : IsKw kw)
    (h : ¬ ∃ w1 w2 t, AllWs w1 ∧ AllWs w2 ∧ line = w1 ++ slashes ++ w2 ++ kw ++ t) :
    lead kw line = none :=
  Option.eq_none_iff_forall_ne_some.2 fun t ht =>
    let ⟨w1, w2, h1, h2, e⟩ := (lead_iff hkw).1 ht
    h ⟨w1, w2, t, h1, h2, e⟩

/-! ## Non-vacuity and the documented examples -/
example : recogniseBare kwImmutable (ascii "// @immutable") = true := by rw [ascii_ofList]; decide +kernel
example : recogniseBare kwImmutable (ascii "//\t@immutable  any text") = true := by rw [ascii_ofList]; decide +kernel
example : recogniseBare kwImmutable (ascii "// @immutablex") = false := by rw [ascii_ofList]; decide +kernel
example : recogniseBare kwImmutable (ascii "// @Immutable") = false := by rw [ascii_ofList]; decide +kernel
example : recogniseBare kwImmutable (ascii "// see @immutable") = false := by rw [ascii_ofList]; decide +kernel
example : recogniseBare kwImmutable (ascii "/* @immutable */") = false := by rw [ascii_ofList]; decide +kernel
example : parseConstructor (ascii "// @constructor New, Create") = some [ascii "New", ascii "Create"] := by rw [ascii_ofList]; decide +kernel
example : parseConstructor (ascii "// @constructor New ,Create - because") = some [ascii "New", ascii "Create"] := by rw [ascii_ofList]; decide +kernel
example : parseConstructor (ascii "// @constructor A, B-") = some [ascii "A"] := by rw [ascii_ofList]; decide +kernel
example : parseConstructor (ascii "// @constructor 9x") = none := by rw [ascii_ofList]; decide +kernel
example : parseConstructor (ascii "// @constructor") = none := by rw [ascii_ofList]; decide +kernel
example : parsePackageOnly (ascii "// @packageonly") = some [] := by rw [ascii_ofList]; decide +kernel
example : parsePackageOnly (ascii "// @packageonly a/b, c.d-e") = some [ascii "a/b", ascii "c.d-e"] := by rw [ascii_ofList]; decide +kernel
example : parseIgnore (ascii "// @ignore imm01, Ctor reason") = some [ascii "IMM01", ascii "CTOR"] := by rw [ascii_ofList]; decide +kernel
example : parseImplements (ascii "// @implements &io.Reader") = some (true, ascii "io", ascii "Reader") := by rw [ascii_ofList]; decide +kernel
example : parseImplements (ascii "// @implements Reader text") = some (false, [], ascii "Reader") := by rw [ascii_ofList]; decide +kernel
example : parseImplements (ascii "// @implements io.Reader.X") = none := by rw [ascii_ofList]; decide +kernel
example : parseImplements (ascii "// @implements") = none := by rw [ascii_ofList]; decide +kernel

/-! ## list arguments: completeness

`keyword_exact_list`, `list_sound` and `list_names_valid` say that what is recognised has the documented shape; the
theorems below are the converse: every line of the documented shape is recognised, with exactly its items in order. -/

/-- after the last item the line may end, carry one trailing comma, and then blank-separated free text -/
theorem acceptAfter_iff (t : Bytes) :
    acceptAfter t = true ↔ TailOK t ∨ ∃ w r, AllWs w ∧ t = w ++ 44 :: r ∧ TailOK r := by
  unfold acceptAfter
  rw [Bool.or_eq_true, tailOk_iff]
  refine or_congr_right ⟨fun h => ?_, ?_⟩
  · split at h
    · next r e =>
      obtain ⟨w, hw, hs, _⟩ := dropWs_spec t
      exact ⟨w, r, hw, e ▸ hs, tailOk_iff.1 h⟩
    · cases h
  · rintro ⟨w, r, hw, rfl, hr⟩
    rw [dropWs_append_of_ws hw, dropWs_of_nonws_head (by decide)]
    exact tailOk_iff.2 hr

/-- **list completeness**: blanks `//` blanks `@K` blanks `ID₀ (blanks , blanks IDᵢ)*` followed by a text after which the
    list does not continue (`parseSep` fails) and the line may finish (`acceptAfter_iff`) is recognised with exactly
    the items `ID₀ … IDₙ`, in order — for every identifier class in which blanks and commas are not identifier bytes -/
theorem list_complete (kw : Bytes) (hkw : IsKw kw) (k : IdClass) (hk : SepFree k)
    (w1 w2 ws id0 trail : Bytes) (more : List (Bytes × Bytes × Bytes))
    (h1 : AllWs w1) (h2 : AllWs w2) (hws : AllWs ws) (hne : ws ≠ [])
    (hid : ValidId k id0) (hmore : WfItems k more)
    (hacc : acceptAfter trail = true) (hstop : parseSep k trail = none) :
    recogniseList kw k (w1 ++ slashes ++ w2 ++ kw ++ (ws ++ (id0 ++ (sepText more ++ trail))))
      = some (id0 :: more.map (·.2.2)) := by
  obtain ⟨b, t, rfl⟩ := List.exists_cons_of_ne_nil hne
  have hst := sepText_append_stops hk hmore (acceptAfter_stops hk hacc)
  refine recogniseList_of_chain (t := t ++ (id0 ++ (sepText more ++ trail))) (id0 := id0) (r0 := sepText more ++ trail)
    ((lead_iff hkw).2 ⟨w1, w2, h1, h2, rfl⟩) (hws b List.mem_cons_self) ?_ ?_
  · rw [← List.cons_append, dropWs_append_of_ws hws, validId_head_nonws hk hid, parseId_append hid hst]
  · refine longestAccepted_chain hk hacc hstop more id0 _ hmore (Nat.le_succ_of_le ?_)
    rw [List.length_append]
    exact Nat.le_trans (sepText_length more) (Nat.le_add_right _ _)

theorem constructor_complete (w1 w2 ws id0 trail : Bytes) (more : List (Bytes × Bytes × Bytes))
    (h1 : AllWs w1) (h2 : AllWs w2) (hws : AllWs ws) (hne : ws ≠ [])
    (hid : ValidId goIdent id0) (hmore : WfItems goIdent more)
    (hacc : acceptAfter trail = true) (hstop : parseSep goIdent trail = none) :
    parseConstructor (w1 ++ slashes ++ w2 ++ kwConstructor ++ (ws ++ (id0 ++ (sepText more ++ trail))))
      = some (id0 :: more.map (·.2.2)) :=
  parseConstructor_eq_some.2 ⟨List.cons_ne_nil _ _,
    list_complete kwConstructor kw_constructor goIdent sepFree_goIdent w1 w2 ws id0 trail more h1 h2 hws hne hid hmore hacc hstop⟩

theorem packageonly_complete (w1 w2 ws id0 trail : Bytes) (more : List (Bytes × Bytes × Bytes))
    (h1 : AllWs w1) (h2 : AllWs w2) (hws : AllWs ws) (hne : ws ≠ [])
    (hid : ValidId pkgPath id0) (hmore : WfItems pkgPath more)
    (hacc : acceptAfter trail = true) (hstop : parseSep pkgPath trail = none) :
    parsePackageOnly (w1 ++ slashes ++ w2 ++ kwPackageonly ++ (ws ++ (id0 ++ (sepText more ++ trail))))
      = some (id0 :: more.map (·.2.2)) :=
  list_complete kwPackageonly kw_packageonly pkgPath sepFree_pkgPath w1 w2 ws id0 trail more h1 h2 hws hne hid hmore hacc hstop

theorem ignore_complete (w1 w2 ws id0 trail : Bytes) (more : List (Bytes × Bytes × Bytes))
    (h1 : AllWs w1) (h2 : AllWs w2) (hws : AllWs ws) (hne : ws ≠ [])
    (hid : ValidId codeTok id0) (hmore : WfItems codeTok more)
    (hacc : acceptAfter trail = true) (hstop : parseSep codeTok trail = none) :
    parseIgnore (w1 ++ slashes ++ w2 ++ kwIgnore ++ (ws ++ (id0 ++ (sepText more ++ trail))))
      = some ((id0 :: more.map (·.2.2)).map (·.map upperAscii)) :=
  parseIgnore_eq_some.2 ⟨_, List.cons_ne_nil _ _,
    list_complete kwIgnore kw_ignore codeTok sepFree_codeTok w1 w2 ws id0 trail more h1 h2 hws hne hid hmore hacc hstop, rfl⟩

/-- non-vacuity: these lines have the documented shape and yield the three names … -/
example : parseConstructor (ascii "// @constructor New, Make ,Build and more") = some [ascii "New", ascii "Make", ascii "Build"] := by
  rw [ascii_ofList]; decide +kernel
example : parseConstructor (ascii "// @constructor New, Make ,Build, - see docs") = some [ascii "New", ascii "Make", ascii "Build"] := by
  rw [ascii_ofList]; decide +kernel
/-- … whereas here the list continues (`parseSep` succeeds on `, see docs`): the regex takes `see` as a fourth name -/
example : parseConstructor (ascii "// @constructor New, Make ,Build, see docs")
    = some [ascii "New", ascii "Make", ascii "Build", ascii "see"] := by
  rw [ascii_ofList]; decide +kernel

end GGV.Props.C15

/-! ## attachment: which doc comment speaks for which type spec

`type ( … )` groups: a spec with a doc comment of its own is described by that comment alone; only a spec without one
falls back to the group's comment; and what one spec contributes does not depend on its siblings in the group. -/
namespace GGV.Props.C15
open GGV.Model GGV.Model.Prog

/-- a spec's own doc comment wins: the group's comment is not consulted -/
theorem spec_doc_wins (genDoc genDoc' : Doc) (ts : TypeSpecInfo) (l : List Bytes) (h : ts.doc = some l) :
    specDoc genDoc ts = some l ∧ specDoc genDoc' ts = some l := by
  unfold specDoc; simp [h]

/-- a spec without a doc comment is described by the group's comment -/
theorem group_doc_fallback (genDoc : Doc) (ts : TypeSpecInfo) (h : ts.doc = none) : specDoc genDoc ts = genDoc := by
  unfold specDoc; simp [h]

/-- the contribution of one spec under a group comment -/
def annOfSpec (pkgPath : Name) (genDoc : Doc) (ts : TypeSpecInfo) : Annotations :=
  match specDoc genDoc ts with
  | none => {}
  | some lines => concatAnn (lines.map (annOfTypeLine pkgPath ts))

/-- **specs are independent**: the annotations of a `type` declaration are the concatenation of what each spec
    contributes on its own — nothing carries over from one spec to the next -/
theorem type_decl_by_spec (pkgPath : Name) (d : Decl) (genDoc : Doc) (specs : List TypeSpecInfo)
    (h : d.info = .gen (ascii "type") genDoc specs) :
    annOfDeclTypes pkgPath d = concatAnn (specs.map (annOfSpec pkgPath genDoc)) := by
  haveI : LawfulBEq UInt8 := instLawfulBEq  -- the instance search finds it only after a long detour
  unfold annOfDeclTypes
  rw [h]
  simp only [bne_self_eq_false, Bool.false_eq_true, if_false]
  rfl

/-- a documented spec contributes the same whatever the group's comment says and whatever its siblings are -/
theorem documented_spec_local (pkgPath : Name) (genDoc genDoc' : Doc) (ts : TypeSpecInfo) (l : List Bytes)
    (h : ts.doc = some l) : annOfSpec pkgPath genDoc ts = annOfSpec pkgPath genDoc' ts := by
  unfold annOfSpec
  rw [(spec_doc_wins genDoc genDoc' ts l h).1, (spec_doc_wins genDoc genDoc' ts l h).2]

/-- a group whose comment carries no keyword line and a spec without a comment: nothing is contributed -/
theorem undocumented_spec_inert (pkgPath : Name) (ts : TypeSpecInfo) (h : ts.doc = none) :
    annOfSpec pkgPath none ts = {} := by
  unfold annOfSpec
  rw [group_doc_fallback none ts h]

/-- splitting a group in two declarations with the same group comment changes nothing (append of spec lists) -/
theorem type_decl_split (pkgPath : Name) (genDoc : Doc) (s1 s2 : List TypeSpecInfo) :
    concatAnn ((s1 ++ s2).map (annOfSpec pkgPath genDoc)) =
      concatAnn (s1.map (annOfSpec pkgPath genDoc)) ++ concatAnn (s2.map (annOfSpec pkgPath genDoc)) := by
  rw [List.map_append, concatAnn_append]

/-- non-vacuity: a group `// @immutable type ( A struct{}; // plain\n B struct{} )`: A falls back to the group comment, B does not -/
def exA : TypeSpecInfo := { name := ascii "A", pos := 1, doc := none, isStruct := true, fields := [] }
def exB : TypeSpecInfo := { name := ascii "B", pos := 2, doc := some [ascii "// plain"], isStruct := true, fields := [] }
def exG : Doc := some [ascii "// @immutable"]
example : (annOfSpec (ascii "p") exG exA).immutable = [ascii "A"] ∧ (annOfSpec (ascii "p") exG exB).immutable = [] := by
  decide +kernel

end GGV.Props.C15
