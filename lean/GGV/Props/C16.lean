import GGV.Lemmas.IgnoreSet
/-!
# C16 — Suppression decision = inclusive range + ALL > category > code, nothing more

`Suppressed` speaks about the *history* of add operations, not about the indexed state, so the theorems cover every
order and every length of history. The file also holds the small algebra of `Suppressed` and `hierOf` that C08, C12
and C17 share (`suppressed_iff`, `suppressed_cons`, `mem_hierOf`).
-/
namespace GGV.Props.C16
open GGV.Model

/-- the specification: some token of the code's hierarchy is global, or has a range containing `pos` -/
def Suppressed (hier : String → List String) (ops : List Op) (code : String) (pos : Int) : Prop :=
  ∃ t ∈ hier code,
    (∃ cs, Op.addModule cs ∈ ops ∧ t ∈ cs) ∨
    (∃ m, Op.add m ∈ ops ∧ t ∈ m.codes ∧ m.start ≤ pos ∧ pos ≤ m.stop)

/-- real positions are ≥ 1 (`token.NoPos = 0` is the "no position" sentinel) -/
def StartsValid (ops : List Op) : Prop := ∀ m, Op.add m ∈ ops → 1 ≤ m.start

/-- the operation `op` suppresses the token `t` at `pos` -/
def Hits (t : String) (pos : Int) : Op → Prop
  | .addModule cs => t ∈ cs
  | .add m => t ∈ m.codes ∧ m.start ≤ pos ∧ pos ≤ m.stop

section
variable {hier : String → List String} {ops ops' : List Op} {code : String} {pos : Int}

theorem suppressed_iff : Suppressed hier ops code pos ↔ ∃ t ∈ hier code, ∃ op ∈ ops, Hits t pos op := by
  refine exists_congr fun t => and_congr_right fun _ => ⟨?_, ?_⟩
  · rintro (⟨cs, hc, h⟩ | ⟨m, hm, h⟩)
    · exact ⟨_, hc, h⟩
    · exact ⟨_, hm, h⟩
  · rintro ⟨_ | _, hop, h⟩
    · exact .inr ⟨_, hop, h⟩
    · exact .inl ⟨_, hop, h⟩

theorem suppressed_cons (op : Op) :
    Suppressed hier (op :: ops) code pos ↔ (∃ t ∈ hier code, Hits t pos op) ∨ Suppressed hier ops code pos := by
  simp only [suppressed_iff, List.mem_cons, exists_eq_or_imp, and_or_left, exists_or]

theorem suppressed_congr (h : ∀ op, op ∈ ops ↔ op ∈ ops') :
    Suppressed hier ops code pos ↔ Suppressed hier ops' code pos := by
  simp only [Suppressed, h]

end

/-- **C16 main theorem** (any hierarchy function): the indexed structure decides exactly `Suppressed`. -/
theorem contains_iffH (hier : String → List String) (ops : List Op) (hpos : StartsValid ops)
    (code : String) (pos : Int) :
    (run ops).containsH hier code pos = true ↔ Suppressed hier ops code pos :=
  (inv_run ops).contains_iff hpos hier code pos

/-- **C16 main theorem** at the code table regenerated from /repo. -/
theorem contains_iff (ops : List Op) (hpos : StartsValid ops) (code : String) (pos : Int) :
    (run ops).contains code pos = true ↔ Suppressed hier ops code pos :=
  contains_iffH hier ops hpos code pos

/-- only the set of operations matters: not their order, not their multiplicity -/
theorem containsH_congr {ops ops' : List Op} (h : ∀ op, op ∈ ops ↔ op ∈ ops') (hpos : StartsValid ops)
    (hier : String → List String) (code : String) (pos : Int) :
    (run ops).containsH hier code pos = (run ops').containsH hier code pos := by
  rw [Bool.eq_iff_iff, contains_iffH hier ops hpos, contains_iffH hier ops' fun m hm => hpos m ((h _).2 hm)]
  exact suppressed_congr h

/-- order independence: any permutation of the history gives the same answers -/
theorem contains_perm (ops ops' : List Op) (hp : ops.Perm ops') (hpos : StartsValid ops)
    (code : String) (pos : Int) :
    (run ops).contains code pos = (run ops').contains code pos :=
  containsH_congr (fun _ => hp.mem_iff) hpos hier code pos

/-- the zero value (uninitialised) and the empty history never suppress -/
theorem contains_empty (code : String) (pos : Int) :
    ({} : ISet).contains code pos = false ∧ (run []).contains code pos = false ∧
    containsOpt none code pos = false :=
  ⟨rfl, rfl, rfl⟩

/-- tokens outside the code's hierarchy, and ranges not containing `pos`, never suppress -/
theorem other_tokens_never (ops : List Op) (hpos : StartsValid ops) (code : String) (pos : Int)
    (hmod : ∀ cs, Op.addModule cs ∈ ops → ∀ t ∈ cs, t ∉ hier code)
    (hadd : ∀ m, Op.add m ∈ ops → (∀ t ∈ m.codes, t ∉ hier code) ∨ pos < m.start ∨ m.stop < pos) :
    (run ops).contains code pos = false := by
  rw [Bool.eq_false_iff, Ne, contains_iff ops hpos]
  rintro ⟨t, ht, ⟨cs, hc, h⟩ | ⟨m, hm, htc, h1, h2⟩⟩
  · exact hmod cs hc t h ht
  · rcases hadd m hm with h | h | h
    · exact h t htc ht
    · exact Int.not_le.2 h h1
    · exact Int.not_le.2 h h2

/-! ## The hierarchy over the regenerated table (T1) -/

/-- every listed code has the three-level hierarchy `ALL > its category > itself` -/
theorem hier_table :
    GGV.Gen.codesByCategory.all (fun e => e.2.all (fun c => hier c.1 == ["ALL", e.1, c.1])) = true := by
  decide +kernel

/-- a bare category (and ALL itself) has the two-level hierarchy -/
theorem hier_category :
    GGV.Gen.codesByCategory.all (fun e => hier e.1 == ["ALL", e.1]) = true ∧ hier "ALL" = ["ALL", "ALL"] := by
  decide +kernel

/-- codes are pairwise distinct, categories are pairwise distinct, and no category is a code:
    each code belongs to exactly one category, so `hier` does not depend on Go's map iteration order -/
theorem code_one_category :
    (allCodes GGV.Gen.codesByCategory).Nodup ∧ (allCategories GGV.Gen.codesByCategory).Nodup ∧
    (allCategories GGV.Gen.codesByCategory).all (fun k => !(allCodes GGV.Gen.codesByCategory).contains k) = true := by
  decide +kernel

/-- any string that is not a listed code: hierarchy `ALL > itself` (unknown codes, categories) -/
theorem hier_unknown (code : String) (h : categoryOf GGV.Gen.codesByCategory code = none) :
    hier code = ["ALL", code] := by
  simp [hier, hierOf, h]

theorem mem_hierOf {tbl : CodeTable} {code t : String} :
    t ∈ hierOf tbl code ↔ t = "ALL" ∨ t = code ∨ categoryOf tbl code = some t := by
  unfold hierOf
  split <;> simp [*, eq_comm, or_comm]

theorem mem_hierOf_self (tbl : CodeTable) (code : String) : code ∈ hierOf tbl code :=
  mem_hierOf.2 (.inr (.inl rfl))

/-! ## The `1 ≤ start` hypothesis is forced: position 0 is conflated with "no position" -/

def suppressedB (hier : String → List String) (ops : List Op) (code : String) (pos : Int) : Bool :=
  (hier code).any fun t => ops.any fun
    | .addModule cs => cs.contains t
    | .add m => m.codes.contains t && decide (m.start ≤ pos) && decide (pos ≤ m.stop)

theorem suppressedB_iff (hier : String → List String) (ops : List Op) (code : String) (pos : Int) :
    suppressedB hier ops code pos = true ↔ Suppressed hier ops code pos := by
  simp only [suppressedB, suppressed_iff, List.any_eq_true]
  refine exists_congr fun t => and_congr_right fun _ => exists_congr fun op => and_congr_right fun _ => ?_
  cases op <;> simp [Hits, and_assoc]

/-- With a marker starting at position 0 the structure is wrong: `Add [0,2]; Add [3,4]; Contains IMM01 1`.
    (Outside the property's quantifier — ranges lie inside 1..5 and real `token.Pos` are ≥ 1 —
    so this is a stated boundary of the theorem, not a finding.) -/
theorem start_hypothesis_forced :
    ∃ ops code pos, (run ops).contains code pos ≠ suppressedB hier ops code pos := by
  refine ⟨[.add ⟨["IMM01"], 0, 2⟩, .add ⟨["IMM01"], 3, 4⟩], "IMM01", 1, ?_⟩
  decide +kernel

/-! ## Non-vacuity: a concrete history meeting the hypotheses, suppressed and not suppressed -/
example : StartsValid [.add ⟨["IMM"], 2, 4⟩, .addModule ["CTOR01"]] := by
  intro m hm; simp at hm; subst hm; decide +kernel
example : (run [.add ⟨["IMM"], 2, 4⟩, .addModule ["CTOR01"]]).contains "IMM01" 3 = true := by decide +kernel
example : (run [.add ⟨["IMM"], 2, 4⟩, .addModule ["CTOR01"]]).contains "IMM01" 5 = false := by decide +kernel
example : (run [.add ⟨["IMM"], 2, 4⟩, .addModule ["CTOR01"]]).contains "CTOR01" 9 = true := by decide +kernel
example : (run [.add ⟨["IMM"], 2, 4⟩, .addModule ["CTOR01"]]).contains "CTOR02" 3 = false := by decide +kernel

end GGV.Props.C16
