import GGV.Lemmas.Walk
import GGV.Lemmas.Env
/-!
# C01 — @immutable is enforced exactly

`ImmReported` is the positional specification; `immutable_exact` proves the stateful walk of `CheckImmutable`
equal to it for every program. Write forms the property does not list (range assignment, `x.f[i]++`,
`x.f[i] op= v`, writes through other pointers than the receiver) offer no site: neither required nor forbidden.
-/
namespace GGV.Props.C01
open GGV.Model GGV.Model.Prog

/-- a write site: a field of a value of type `xTy`, or `*x` (receiver overwrite / increment) -/
inductive Site where
  | field (xTy : Option Ty) (f : Name) (pos : Int) (code : String)
  | recv (x : Lhs) (pos : Int) (code : String)

def assignSites (l : Lhs) : List Site :=
  match l.unparen with
  | .sel xTy f pos => [.field xTy f pos "IMM01"]
  | .idx x pos =>
    match x.unparen with
    | .sel xTy f _ => [.field xTy f pos "IMM04"]
    | _ => []
  | .star x pos => [.recv x pos "IMM01"]
  | _ => []

def compoundSites (l : Lhs) : List Site :=
  match l.unparen with
  | .sel xTy f pos => [.field xTy f pos "IMM02"]
  | _ => []

def incDecSites (nodePos : Int) (x : Lhs) : List Site :=
  match x.unparen with
  | .sel xTy f _ => [.field xTy f nodePos "IMM03"]
  | .star y pos => [.recv y pos "IMM03"]
  | _ => []

/-- the write sites a statement offers: plain `=` (IMM01 / IMM04 / receiver), `op=` (IMM02), `++ --` (IMM03) -/
def sites (n : Node) : List Site :=
  match n.kind with
  | .assign tok lhs => if tok == .assign then lhs.flatMap assignSites else lhs.flatMap compoundSites
  | .incDec x => incDecSites n.pos x
  | _ => []

/-- when a site is a violation, given the enclosing top-level function and method receiver -/
def SiteViolates (c : WalkCtx) (fn : Name) (recv : Option RecvCtx) : Site → Diag → Prop
  | .field xTy f pos code, dg =>
    ∃ pkg ty, typeInfo xTy = some (pkg, ty) ∧ c.env.isImmutable pkg ty = true ∧
      ¬ (c.curPkg = pkg ∧ fn ∈ c.env.ctorNames pkg ty) ∧ c.env.isMutableField pkg ty f = false ∧ dg = ⟨pos, code⟩
  | .recv x pos code, dg =>
    ∃ r, recv = some r ∧ x = .ident r.name ∧ c.env.isImmutable r.pkgPath r.typeName = true ∧
      ¬ (c.curPkg = r.pkgPath ∧ fn ∈ c.env.ctorNames r.pkgPath r.typeName) ∧ dg = ⟨pos, code⟩

/-- the specification -/
def ImmReported (cfg : Cfg) (c : WalkCtx) (p : Pkg) (dg : Diag) : Prop :=
  ∃ f ∈ p.files, shouldSkip cfg f.name = false ∧ ∃ d ∈ f.decls, ∃ n ∈ d.nodes, ∃ s ∈ sites n,
    SiteViolates c d.enclosingFn d.enclosingRecv s dg

def siteDiag (c : WalkCtx) (fn : Name) (recv : Option RecvCtx) : Site → List Diag
  | .field xTy f pos code => if immFieldHit c fn xTy f then [⟨pos, code⟩] else []
  | .recv x pos code => if immRecvHit c fn recv x then [⟨pos, code⟩] else []

theorem inConstructor_iff (c : WalkCtx) (fn pkg ty : Name) :
    c.inConstructor fn pkg ty = true ↔ (c.curPkg = pkg ∧ fn ∈ c.env.ctorNames pkg ty) := by
  simp [WalkCtx.inConstructor]

theorem immFieldHit_iff (c : WalkCtx) (fn : Name) (xTy : Option Ty) (f : Name) :
    immFieldHit c fn xTy f = true ↔
      ∃ pkg ty, typeInfo xTy = some (pkg, ty) ∧ c.env.isImmutable pkg ty = true ∧
        ¬ (c.curPkg = pkg ∧ fn ∈ c.env.ctorNames pkg ty) ∧ c.env.isMutableField pkg ty f = false := by
  unfold immFieldHit
  cases typeInfo xTy with
  | none => simp
  | some pt => obtain ⟨pkg, ty⟩ := pt; simp [← inConstructor_iff, and_assoc]

theorem immRecvHit_iff (c : WalkCtx) (fn : Name) (recv : Option RecvCtx) (x : Lhs) :
    immRecvHit c fn recv x = true ↔
      ∃ r, recv = some r ∧ x = .ident r.name ∧ c.env.isImmutable r.pkgPath r.typeName = true ∧
        ¬ (c.curPkg = r.pkgPath ∧ fn ∈ c.env.ctorNames r.pkgPath r.typeName) := by
  unfold immRecvHit
  cases recv with
  | none => simp
  | some r => cases x <;> simp [← inConstructor_iff, and_assoc]

theorem siteDiag_iff (c : WalkCtx) (fn : Name) (recv : Option RecvCtx) (s : Site) (dg : Diag) :
    dg ∈ siteDiag c fn recv s ↔ SiteViolates c fn recv s dg := by
  cases s with
  | field xTy f pos code =>
    simp only [siteDiag, List.mem_ite_nil_right, List.mem_singleton, immFieldHit_iff]
    exact ⟨fun ⟨⟨pkg, ty, h1, h2, h3, h4⟩, e⟩ => ⟨pkg, ty, h1, h2, h3, h4, e⟩,
      fun ⟨pkg, ty, h1, h2, h3, h4, e⟩ => ⟨⟨pkg, ty, h1, h2, h3, h4⟩, e⟩⟩
  | recv x pos code =>
    simp only [siteDiag, List.mem_ite_nil_right, List.mem_singleton, immRecvHit_iff]
    exact ⟨fun ⟨⟨r, h1, h2, h3, h4⟩, e⟩ => ⟨r, h1, h2, h3, h4, e⟩, fun ⟨r, h1, h2, h3, h4, e⟩ => ⟨⟨r, h1, h2, h3, h4⟩, e⟩⟩

theorem immNode_eq_sites (c : WalkCtx) (fn : Name) (recv : Option RecvCtx) (n : Node) :
    immNode c fn recv n = (sites n).flatMap (siteDiag c fn recv) := by
  unfold immNode sites
  cases n.kind with
  | assign tok lhs =>
    simp only
    split <;> rw [List.flatMap_assoc] <;> congr 1 <;> funext l
    · unfold immAssignLhs assignSites
      cases l.unparen with
      | idx x pos => simp only; cases x.unparen <;> simp [siteDiag]
      | _ => simp [siteDiag]
    · unfold immCompoundLhs compoundSites
      cases l.unparen <;> simp [siteDiag]
  | incDec x =>
    simp only [immIncDec, incDecSites]
    cases x.unparen <;> simp [siteDiag]
  | _ => rfl

/-- **C01 main theorem**: `CheckImmutable` reports exactly the specified write sites -/
theorem immutable_exact (cfg : Cfg) (c : WalkCtx) (p : Pkg) (hs : PkgShape p) (dg : Diag) :
    dg ∈ checkImmutable cfg c p ↔ ImmReported cfg c p dg := by
  unfold checkImmutable ImmReported
  by_cases hno : c.env.noImmutable = true
  · simp only [hno, if_true, List.not_mem_nil, false_iff]
    rintro ⟨f, _, _, d, _, n, _, s, _, hv⟩
    have := isImmutable_of_noImmutable c.env hno
    cases s with
    | field xTy fl pos code => obtain ⟨pkg, ty, _, h2, _⟩ := hv; simp [this] at h2
    | recv x pos code => obtain ⟨r, _, _, h2, _⟩ := hv; simp [this] at h2
  · simp only [hno, Bool.false_eq_true, if_false, mem_flatMap_scannedDecls]
    refine exists_congr fun f => and_congr_right fun hf => and_congr_right fun _ =>
      exists_congr fun d => and_congr_right fun hd => ?_
    simp only [immDecl_eq c d (hs f hf d hd), immNode_eq_sites, List.mem_flatMap, siteDiag_iff]

/-- statements that only read, and write forms outside the listed ones, offer no site -/
theorem immutable_silent_reads (n : Node) (h : ∀ tok lhs, n.kind ≠ .assign tok lhs) (h' : ∀ x, n.kind ≠ .incDec x) :
    sites n = [] := by
  unfold sites
  cases hk : n.kind with
  | assign tok lhs => exact absurd hk (h tok lhs)
  | incDec x => exact absurd hk (h' x)
  | _ => rfl

/-- a `@mutable` field is never reported; a type without `@immutable` is never reported -/
theorem immutable_silent (c : WalkCtx) (fn : Name) (recv : Option RecvCtx) (xTy : Option Ty) (f : Name) (pos : Int)
    (code : String) (pkg ty : Name) (hti : typeInfo xTy = some (pkg, ty))
    (h : c.env.isMutableField pkg ty f = true ∨ c.env.isImmutable pkg ty = false) :
    siteDiag c fn recv (.field xTy f pos code) = [] := by
  rcases h with h | h <;> simp [siteDiag, immFieldHit, hti, h]

/-- overwriting the receiver (`*r = v`, `*r++`) inside a method of an immutable type is reported, unless the method is
    a constructor of the type in the type's own package -/
theorem immutable_receiver_rule (c : WalkCtx) (fn : Name) (r : RecvCtx) (pos : Int) (code : String)
    (himm : c.env.isImmutable r.pkgPath r.typeName = true)
    (hout : ¬ (c.curPkg = r.pkgPath ∧ fn ∈ c.env.ctorNames r.pkgPath r.typeName)) :
    siteDiag c fn (some r) (.recv (.ident r.name) pos code) = [⟨pos, code⟩] := by
  simp only [siteDiag, (immRecvHit_iff c fn (some r) (.ident r.name)).2 ⟨r, rfl, rfl, himm, hout⟩, if_true]

/-! ## Non-vacuity -/
def exEnv : Env := [(ascii "exp/a", { immutable := [ascii "T"], constructors := [(ascii "T", [ascii "NewT"])], mutable := [(ascii "T", ascii "Cache")] })]
def exCtx : WalkCtx := ⟨exEnv, ascii "exp/a", ascii "a"⟩
def tyT : Option Ty := some (.ptr (.named (some (ascii "exp/a")) (ascii "T")))
def exDeclInit : Decl := ⟨.gen (ascii "var") none [], 60, 90, 5,
  [⟨.other, 60, 90, 5, 5, 2⟩, ⟨.assign .assign [.sel tyT (ascii "X") 70], 70, 80, 5, 5, 0⟩,
   ⟨.assign .assign [.sel tyT (ascii "Cache") 82], 82, 88, 5, 5, 0⟩]⟩
def exDeclCtor : Decl := ⟨.func (ascii "NewT") none none, 10, 50, 3,
  [⟨.funcDecl (ascii "NewT"), 10, 50, 1, 3, 1⟩, ⟨.assign .assign [.sel tyT (ascii "X") 30], 30, 40, 2, 2, 0⟩]⟩
example : immDecl exCtx exDeclInit = [⟨70, "IMM01"⟩] := by decide +kernel
example : immDecl exCtx exDeclCtor = [] := by decide +kernel

end GGV.Props.C01
