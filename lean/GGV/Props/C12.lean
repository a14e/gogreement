import GGV.Lemmas.Attach
import GGV.Lemmas.Dedup
import GGV.Props.C03
import GGV.Props.C04
import GGV.Props.C16
import GGV.Lemmas.RepositionIgnore
/-!
# C12 — Verdicts do not depend on source layout

What the model can carry of the layout transformations:
* the verdict of a declaration depends only on that declaration and on the indices (`immDecl`, `ctorDecl` take
  nothing else), so permuting the declarations of a file, or moving them between scanned files, permutes the
  diagnostics (`perm_decls`, `move_decl`);
* the indices depend only on the *set* of annotations, which is an order-free union over files, declarations
  and doc lines (`annotations_order_free`, `index_order_free`);
* for the once-per-file codes the set of reported keys is the set of keys with at least one unsuppressed use,
  whatever the order of the uses (`reported_keys_order_free`).
* blank lines, comments and gofmt change only where things are: a *re-layout* `ρ` maps byte offsets by a strictly
  increasing function (fixing the "no position" sentinel 0) and line numbers injectively. `relayout_invariant`:
  the annotations are unchanged and the diagnostics of the re-laid-out package are the images of the original
  diagnostics, same codes, same order — for all four walks, the @ignore reader (`ignoreOps_mapPos`), the suppression
  decision (`ignores_agree`) and the report-time filters together.
Renaming local variables changes no position and no identifier the model reads except a receiver name (which is
renamed consistently in declaration and use, `recvCtxOf`); that part stays tied by the metamorphic `layout` suite.
-/
namespace GGV.Props.C12
open GGV.Model GGV.Model.Prog

/-- all declarations of the files a configuration selects -/
def scannedDecls (cfg : Cfg) (p : Pkg) : List Decl := (filesToScan cfg p).flatMap (·.decls)

theorem checkImmutable_decls (cfg : Cfg) (c : WalkCtx) (p : Pkg) :
    checkImmutable cfg c p = if c.env.noImmutable then [] else (scannedDecls cfg p).flatMap (immDecl c) := by
  rw [checkImmutable, scannedDecls, List.flatMap_assoc]

theorem checkConstructor_decls (cfg : Cfg) (c : WalkCtx) (p : Pkg) :
    checkConstructor cfg c p = if c.env.noConstructors then [] else (scannedDecls cfg p).flatMap (ctorDecl c) := by
  rw [checkConstructor, scannedDecls, List.flatMap_assoc]

/-- **reordering declarations / moving them between scanned files**: if the scanned declarations are a
    permutation, the IMM and CTOR diagnostics are a permutation (same statements, same codes) -/
theorem move_decl (cfg : Cfg) (c : WalkCtx) (p p' : Pkg) (h : (scannedDecls cfg p).Perm (scannedDecls cfg p')) :
    (checkImmutable cfg c p).Perm (checkImmutable cfg c p') ∧ (checkConstructor cfg c p).Perm (checkConstructor cfg c p') := by
  rw [checkImmutable_decls, checkImmutable_decls, checkConstructor_decls, checkConstructor_decls]
  constructor <;> split
  · exact List.Perm.refl _
  · exact List.Perm.flatMap_right _ h
  · exact List.Perm.refl _
  · exact List.Perm.flatMap_right _ h

/-- reordering the declarations of one file -/
theorem perm_decls (c : WalkCtx) (ds ds' : List Decl) (h : ds.Perm ds') :
    (ds.flatMap (immDecl c)).Perm (ds'.flatMap (immDecl c)) ∧ (ds.flatMap (ctorDecl c)).Perm (ds'.flatMap (ctorDecl c)) :=
  ⟨List.Perm.flatMap_right _ h, List.Perm.flatMap_right _ h⟩

/-- **the annotations of a package are an order-free union** over scanned files and their declarations -/
theorem annotations_order_free (cfg : Cfg) (p : Pkg) (x : Name) :
    x ∈ (readAnnotations cfg p).immutable ↔
      ∃ f ∈ filesToScan cfg p, ∃ d ∈ f.decls, x ∈ (annOfDeclTypes p.path d).immutable := by
  have hfuncs : ∀ d, (annOfDeclFuncs p.path d).immutable = [] := by
    intro d
    unfold annOfDeclFuncs
    split
    · split
      · rfl
      · refine List.eq_nil_iff_forall_not_mem.2 fun x hx => ?_
        obtain ⟨a, ha, hx⟩ := (mem_concat_immutable _ x).1 hx
        obtain ⟨t, _, rfl⟩ := List.mem_map.1 ha
        unfold annOfFuncLine at hx
        split at hx <;> cases hx
    · rfl
  -- the field is a `flatMap` at every level (`concatAnn_eq`); only the type half of a file contributes (`hfuncs`)
  simp only [readAnnotations, annOfFile, concatAnn_eq, ann_append_def, Annotations.append,
    List.flatMap_map, List.mem_flatMap, List.mem_append, hfuncs, List.not_mem_nil, and_false, exists_false, or_false]

/-- **the indices depend only on the set of (package, annotations) entries, not on their order** -/
theorem index_order_free (e e' : Env) (h : e.Perm e') (pkg ty f : Name) (k : AKind) (recv name x : Name) :
    e.isImmutable pkg ty = e'.isImmutable pkg ty ∧
    e.isMutableField pkg ty f = e'.isMutableField pkg ty f ∧
    e.testOnlyType pkg ty = e'.testOnlyType pkg ty ∧
    e.testOnlyFunc pkg f = e'.testOnlyFunc pkg f ∧
    e.testOnlyMethod pkg ty f = e'.testOnlyMethod pkg ty f ∧
    (x ∈ e.ctorNames pkg ty ↔ x ∈ e'.ctorNames pkg ty) ∧
    (x ∈ e.attachments pkg k recv name ↔ x ∈ e'.attachments pkg k recv name) := by
  exact ⟨h.any_eq, h.any_eq, h.any_eq, h.any_eq, h.any_eq, (h.flatMap_right _).mem_iff, (h.flatMap_right _).mem_iff⟩

/-- **once-per-file codes**: which keys get reported does not depend on the order of the uses: a key is
    reported iff it has at least one unsuppressed use -/
theorem reported_keys_order_free {K : Type} [DecidableEq K] (sup : Diag → Bool) (evs : List (Ev K)) (k : K) :
    (∃ d, FirstUnsuppressed sup evs k d) ↔ (∃ d, Ev.keyed k d ∈ evs ∧ sup d = false) := by
  induction evs with
  | nil => simp [firstUnsuppressed_nil]
  | cons ev rest ih =>
    simp only [firstUnsuppressed_cons, List.mem_cons, exists_or, or_and_right, ← ih]
    -- if the head is an unsuppressed use of `k` it is the first one; otherwise it does not matter
    by_cases hhead : ∃ d0, ev = Ev.keyed k d0 ∧ sup d0 = false
    · exact ⟨fun _ => Or.inl (hhead.imp fun _ h => ⟨h.1.symm, h.2⟩), fun _ => Or.inl hhead⟩
    · have hsup : ∀ d', ev = Ev.keyed k d' → sup d' = true := fun d' e => by
        cases hs : sup d' with
        | true => rfl
        | false => exact absurd ⟨d', e, hs⟩ hhead
      refine or_congr ⟨fun h => absurd h hhead, fun ⟨d, e, hs⟩ => absurd ⟨d, e.symm, hs⟩ hhead⟩ ?_
      exact exists_congr fun d => and_iff_right hsup

/-- … and the every-time codes (TONL02/03, PKGO02/03) are reported per use, independent of order -/
theorem plain_order_free {K : Type} [DecidableEq K] (sup : Diag → Bool) (evs evs' : List (Ev K)) (h : evs.Perm evs') (dg : Diag) :
    (Ev.plain dg ∈ evs ∧ sup dg = false) ↔ (Ev.plain dg ∈ evs' ∧ sup dg = false) := by
  rw [h.mem_iff]

/-! ## Non-vacuity -/
example : ([1, 2, 3] : List Nat).Perm [3, 1, 2] := by decide +kernel


/-! ## re-layout: blank lines, comments, gofmt -/

theorem hits_mapPos (ρ : Relay) (h : ρ.Monotone) (t : String) (pos : Int) (op : Op) :
    C16.Hits t (ρ.pos pos) (Op.mapPos ρ.pos op) ↔ C16.Hits t pos op := by
  cases op <;> simp [C16.Hits, Op.mapPos, Marker.mapPos, h.le_iff]

/-- strictly increasing position maps preserve "inside the range" -/
theorem suppressed_mapPos (ρ : Relay) (h : ρ.Monotone) (ops : List Op) (code : String) (pos : Int) :
    GGV.Props.C16.Suppressed hier (ops.map (Op.mapPos ρ.pos)) code (ρ.pos pos) ↔ GGV.Props.C16.Suppressed hier ops code pos := by
  simp only [C16.suppressed_iff, List.mem_map]
  refine exists_congr fun t => and_congr_right fun _ => ⟨?_, ?_⟩
  · rintro ⟨_, ⟨op, hop, rfl⟩, hh⟩
    exact ⟨op, hop, (hits_mapPos ρ h t pos op).1 hh⟩
  · rintro ⟨op, hop, hh⟩
    exact ⟨_, ⟨op, hop, rfl⟩, (hits_mapPos ρ h t pos op).2 hh⟩

/-- the ignore set built from the re-laid-out markers answers at `ρ.pos pos` what the original answers at `pos` -/
theorem ignores_agree (ρ : Relay) (h : ρ.Monotone) (ops : List Op) (hv : GGV.Props.C16.StartsValid ops) :
    IgnAgree ρ.pos (run ops) (run (ops.map (Op.mapPos ρ.pos))) := by
  intro code pos
  have hv' : GGV.Props.C16.StartsValid (ops.map (Op.mapPos ρ.pos)) := by
    intro m hm
    obtain ⟨op, hop, e⟩ := List.mem_map.1 hm
    cases op <;> cases e
    exact h.one_le (hv _ hop)
  rw [Bool.eq_iff_iff, GGV.Props.C16.contains_iff _ hv', GGV.Props.C16.contains_iff _ hv]
  exact suppressed_mapPos ρ h ops code pos

end GGV.Props.C12

namespace GGV.Model.Prog
open GGV.Model GGV.Props

/-! the two walks that consult the ignore set while they run: the event a node offers is re-positioned with it -/

theorem tonlEv_mapPos (ρ : Relay) (c : WalkCtx) (n : Node) :
    C03.tonlEv c (n.mapPos ρ) = (C03.tonlEv c n).map (Ev.mapDiag (Diag.mapPos ρ.pos)) := by
  unfold C03.tonlEv
  rw [Node.mapPos_kind]
  cases n.kind <;> simp only [Kind.mapPos, Option.map_map, Option.map_none] <;> rfl

theorem pkgoEv_mapPos (ρ : Relay) (c : WalkCtx) (n : Node) :
    C04.pkgoEv c (n.mapPos ρ) = (C04.pkgoEv c n).map (Ev.mapDiag (Diag.mapPos ρ.pos)) := by
  unfold C04.pkgoEv
  rw [Node.mapPos_kind]
  cases n.kind with
  | selector o =>
    simp only [Kind.mapPos]
    split <;> simp only [apply_ite (Option.map _), Option.map_none] <;> rfl
  | _ => rfl

def TonlState.mapPos (φ : Int → Int) (s : TonlState) : TonlState := { s with out := s.out.map (Diag.mapPos φ) }
def PkgoState.mapPos (φ : Int → Int) (s : PkgoState) : PkgoState := { s with out := s.out.map (Diag.mapPos φ) }

theorem tonlNode_mapPos (ρ : Relay) (c : WalkCtx) (ig ig' : ISet) (h : IgnAgree ρ.pos ig ig') (s : TonlState) (n : Node) :
    tonlNode c ig' (TonlState.mapPos ρ.pos s) (n.mapPos ρ) = TonlState.mapPos ρ.pos (tonlNode c ig s n) := by
  -- both sides have the same dedup state: apply the re-positioned event to the re-positioned state
  apply C03.toD_injective
  rw [C03.tonlNode_eq, tonlEv_mapPos]
  exact (elim_applyEv_mapDiag _ _ _ (fun d => h d.code d.pos) _ _).trans (congrArg _ (C03.tonlNode_eq c ig s n).symm)

theorem pkgoNode_mapPos (ρ : Relay) (c : WalkCtx) (ig ig' : ISet) (h : IgnAgree ρ.pos ig ig') (s : PkgoState) (n : Node) :
    pkgoNode c ig' (PkgoState.mapPos ρ.pos s) (n.mapPos ρ) = PkgoState.mapPos ρ.pos (pkgoNode c ig s n) := by
  apply C04.toD_injective
  rw [C04.pkgoNode_eq, pkgoEv_mapPos]
  exact (elim_applyEv_mapDiag _ _ _ (fun d => h d.code d.pos) _ _).trans (congrArg _ (C04.pkgoNode_eq c ig s n).symm)

theorem checkTestOnly_mapPos (ρ : Relay) (cfg : Cfg) (c : WalkCtx) (ig ig' : ISet) (h : IgnAgree ρ.pos ig ig') (p : Pkg) :
    checkTestOnly cfg c ig' (p.mapPos ρ) = (checkTestOnly cfg c ig p).map (Diag.mapPos ρ.pos) := by
  unfold checkTestOnly
  split
  · rfl
  · rw [filesToScan_mapPos]
    refine flatMap_map_hom (File.mapPos ρ) _ _ _ (fun f => ?_) _
    unfold tonlFile
    rw [File.mapPos_name]
    split
    · rfl
    · exact congrArg TonlState.out (foldl_map_hom (Decl.mapPos ρ) (TonlState.mapPos ρ.pos) _ _ (fun s d =>
        tonlWalk_map (Node.mapPos_keepsShape ρ) _ c ig ig' (tonlNode_mapPos ρ c ig ig' h) _ s 0 d.nodes) f.decls {})

theorem checkPackageOnly_mapPos (ρ : Relay) (cfg : Cfg) (c : WalkCtx) (ig ig' : ISet) (h : IgnAgree ρ.pos ig ig') (p : Pkg) :
    checkPackageOnly cfg c ig' (p.mapPos ρ) = (checkPackageOnly cfg c ig p).map (Diag.mapPos ρ.pos) := by
  unfold checkPackageOnly
  split
  · rfl
  · rw [filesToScan_mapPos]
    refine flatMap_map_hom (File.mapPos ρ) _ _ _ (fun f => ?_) _
    exact congrArg PkgoState.out (foldl_map_hom (Decl.mapPos ρ) (PkgoState.mapPos ρ.pos) _ _ (fun s d =>
      foldl_map_hom (Node.mapPos ρ) _ _ _ (pkgoNode_mapPos ρ c ig ig' h) d.nodes s) f.decls {})

end GGV.Model.Prog

namespace GGV.Props.C12
open GGV.Model GGV.Model.Prog

/-- **re-layout invariance** (blank lines, comments, gofmt): for a position map that keeps the order of tokens and a
    line map that keeps lines apart, the annotations read are the same and the diagnostics are the images of the
    original diagnostics — same codes, same statements, in the same order. -/
theorem relayout_invariant (ρ : Relay) (h : ρ.Monotone) (cfg : Cfg) (facts : List (Name × Annotations)) (p : Pkg)
    (hv : GGV.Props.C16.StartsValid (ignoreOps cfg p)) :
    (analyze cfg facts (p.mapPos ρ)).ann = (analyze cfg facts p).ann ∧
    (analyze cfg facts (p.mapPos ρ)).diags = (analyze cfg facts p).diags.map (Diag.mapPos ρ.pos) := by
  have hann := readAnnotations_mapPos ρ cfg p
  have hig : IgnAgree ρ.pos (readIgnores cfg p) (readIgnores cfg (p.mapPos ρ)) := by
    unfold readIgnores
    rw [ignoreOps_mapPos ρ h]
    exact ignores_agree ρ h _ hv
  refine ⟨hann, ?_⟩
  unfold analyze
  simp only [hann, Pkg.mapPos_path, List.map_append]
  have hname : (p.mapPos ρ).name = p.name := rfl
  rw [hname, checkImmutable_mapPos, checkConstructor_mapPos,
    checkTestOnly_mapPos ρ cfg _ _ _ hig, checkPackageOnly_mapPos ρ cfg _ _ _ hig,
    report_mapPos ρ _ _ hig, report_mapPos ρ _ _ hig]

/-- non-vacuity: inserting `k` bytes and `j` lines in front of everything (a leading comment block) is a re-layout -/
example (k j : Nat) : (⟨fun x => if x ≤ 0 then x else x + k, fun l => l + j⟩ : Relay).Monotone :=
  ⟨by intro a b hab; simp only; split <;> split <;> omega, by simp, by intro a b e; simp only at e; omega⟩

end GGV.Props.C12
