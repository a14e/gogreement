import GGV.Lemmas.IgnoreSet
import GGV.Props.C19
import GGV.Props.C07
/-!
# C10 — Analysis is total (partial)

Every model function is a total, structurally recursive Lean function over finite lists (as every loop of the
code is a `range` over a finite AST / slice), so termination of the modelled logic is Lean's own obligation.
The partial operations of the modelled code are explicit and proven safe here:
* `s.Markers[idx]` in `IgnoreSet.Contains` — every stored index is in range (`contains_index_safe`);
* the slice expressions of `truncateString` (`render_total`) and the line indices of `readSourceLines` (`window_index_safe`);
* `*ctx.currentFunction` — since the F1/F2 repair the walk state is set at the start of every declaration; the model's
  walk starts each declaration with a defined state, and the crash corpus ties it (package-level initialisers first
  in a file are generated and are in `corpus/witnesses`);
* `token.File.LineStart(line)` in `findInlineNode` — called with an unadjusted line of a comment of that file (F12 repair); tied by
  generated `//line` directives.
Not exhibited: panics inside go/types, go/packages, the drivers; memory exhaustion; scheduler hangs.
-/
namespace GGV.Props.C10
open GGV.Model GGV.Model.Prog

/-- along every history, each index stored in the code index is a valid index into the marker list
    (`hv` and `hinit` are not needed: `inv_run` holds for every history, initialised or not) -/
theorem contains_index_safe (ops : List Op) (hv : C16.StartsValid ops) (c : String) (i : Nat)
    (hinit : (run ops).init = true) (hmem : i ∈ (run ops).index c) : i < (run ops).markers.length :=
  (inv_run ops).index_in_range hmem

/-- … so the `none` branch of the model's lookup (Go: index out of range) is never taken -/
theorem contains_lookup_some (ops : List Op) (hv : C16.StartsValid ops) (c : String) (i : Nat)
    (hinit : (run ops).init = true) (hmem : i ∈ (run ops).index c) : ∃ m, (run ops).markers[i]? = some m :=
  ⟨_, List.getElem?_eq_getElem (contains_index_safe ops hv c i hinit hmem)⟩

/-- no slice expression of the message renderer can be out of range, for any line, limit and column -/
theorem render_total (s : Bytes) (M : Nat) (pos : Int) : truncateG s M pos = some (truncate s M pos) :=
  C19.truncateG_total s M pos

/-- every line index `readSourceLines` uses is inside the file -/
theorem window_index_safe (lines : List Bytes) (L : Int) (b a : Nat) (n : Nat) (t : Bytes)
    (h : (n, t) ∈ window lines L b a) : 1 ≤ n ∧ n ≤ lines.length := by
  obtain ⟨h1, h2, -, -⟩ := C19.window_sound lines L b a n t h
  exact ⟨h1, Nat.le_of_pred_lt (List.getElem?_eq_some_iff.1 h2).1⟩

/-- the marker ranges handed to the ignore set start at real positions (so `contains_index_safe` applies to every package) -/
theorem ignore_set_wellformed (cfg : Cfg) (p : Pkg) (hv : C07.PosValid p) : C16.StartsValid (ignoreOps cfg p) :=
  C07.ignoreOps_startsValid cfg p hv

/-- the analysis of a package is a total function of its abstract program: `analyze` returns a result for every input -/
theorem run_total (cfg : Cfg) (facts : List (Name × Annotations)) (p : Pkg) :
    ∃ r, analyze cfg facts p = r := ⟨_, rfl⟩

end GGV.Props.C10
