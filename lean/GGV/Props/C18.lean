import GGV.Lemmas.Config
/-!
# C18 — Configuration resolves flag > environment > default, for any input strings

For every string (list of code points) given by flag or environment. The case mapping is a parameter
constrained by `UpperOK` (three facts, validated for Go's `unicode.ToUpper` over all runes by the harness).
-/
namespace GGV.Props.C18
open GGV.Model.Config

/-- order of items = order of the comma-separated parts (the list is a filterMap of the split; the `input == ""`
    special case of `parseStringList` is redundant) -/
theorem parseList_order (upper : Nat → Nat) (b : Bool) (s : Str) :
    parseList upper b s = (splitComma s).filterMap fun part =>
      if trim part = [] then none else some (if b then (trim part).map upper else trim part) := by
  cases s <;> rfl

/-- list values: split on commas, trim, drop empties, upper-case when asked — nothing else -/
theorem parseList_char (upper : Nat → Nat) (b : Bool) (s : Str) (x : Str) :
    x ∈ parseList upper b s ↔
      ∃ part ∈ splitComma s, trim part ≠ [] ∧ x = (if b then (trim part).map upper else trim part) := by
  simp only [parseList_order, List.mem_filterMap, Option.ite_none_left_eq_some, Option.some.injEq, eq_comm (a := x)]

/-- every item `parseStringList` returns is non-empty, has no surrounding blanks and no comma -/
theorem parseList_item (upper : Nat → Nat) (hu : UpperOK upper) (b : Bool) (s : Str) (x : Str)
    (hx : x ∈ parseList upper b s) : x ≠ [] ∧ Trimmed x ∧ comma ∉ x ∧ (b = true → x.map upper = x) := by
  obtain ⟨part, hp, ht, rfl⟩ := (parseList_char upper b s x).1 hx
  have hnc : comma ∉ trim part := fun h => splitComma_parts_nocomma s part hp (mem_trim h)
  cases b with
  | false => exact ⟨ht, trimmed_trim part, hnc, nofun⟩
  | true =>
    refine ⟨mt List.map_eq_nil_iff.1 ht, (trimmed_trim part).map hu, ?_, fun _ => ?_⟩
    · intro hmem
      obtain ⟨c, hc, hcc⟩ := List.mem_map.1 hmem
      exact hu.noComma c (fun e => hnc (e ▸ hc)) hcc
    · exact List.map_map.trans (List.map_congr_left fun c _ => hu.idem c)

theorem parseList_joinComma (upper : Nat → Nat) (b : Bool) (items : List Str)
    (h : ∀ x ∈ items, x ≠ [] ∧ Trimmed x ∧ comma ∉ x ∧ (b = true → x.map upper = x)) :
    parseList upper b (joinComma items) = items := by
  by_cases hne : items = []
  · subst hne; rfl
  · rw [parseList_order, splitComma_join items hne fun x hx => (h x hx).2.2.1]
    refine filterMap_eq_self fun x hx => ?_
    obtain ⟨h1, h2, _, h4⟩ := h x hx
    rw [trim_of_trimmed x h2, if_neg h1]
    cases b with
    | false => rfl
    | true => rw [if_pos rfl, h4 rfl]

/-- **the environment value survives its round trip through the flag default**:
    parse ∘ join ∘ parse = parse -/
theorem parseList_join_idem (upper : Nat → Nat) (hu : UpperOK upper) (b : Bool) (s : Str) :
    parseList upper b (joinComma (parseList upper b s)) = parseList upper b s :=
  parseList_joinComma upper b _ (parseList_item upper hu b s)

/-- defaults that are their own parse (true of the regenerated defaults, see `repoDefaults_normal`) -/
def DefaultsNormal (upper : Nat → Nat) (d : Defaults) : Prop :=
  parseList upper false (joinComma d.excludePaths) = d.excludePaths ∧
  parseList upper true (joinComma d.excludeChecks) = d.excludeChecks

/-- **flag > environment > default**, option by option -/
theorem resolve_precedence (upper lower : Nat → Nat) (hu : UpperOK upper) (d : Defaults)
    (hd : DefaultsNormal upper d) (e : Env) (f : Flags) :
    (resolve upper lower d e f).scanTests =
      (match f.scan with
       | some v => v
       | none => match e.scan with
         | some v => if v = [] then d.scanTests else parseBool lower v
         | none => d.scanTests) ∧
    (resolve upper lower d e f).excludePaths =
      (match f.paths with
       | some v => parseList upper false v
       | none => match e.paths with
         | some v => parseList upper false v
         | none => d.excludePaths) ∧
    (resolve upper lower d e f).excludeChecks =
      (match f.checks with
       | some v => parseList upper true v
       | none => match e.checks with
         | some v => parseList upper true v
         | none => d.excludeChecks) := by
  -- a list option: the flag's default is the joined environment value, which parses back to itself
  have list (b : Bool) (fv ev : Option Str) (dv : List Str) (hdv : parseList upper b (joinComma dv) = dv) :
      parseList upper b (fv.getD (joinComma (match ev with | some v => parseList upper b v | none => dv))) =
        match fv with
        | some v => parseList upper b v
        | none => match ev with
          | some v => parseList upper b v
          | none => dv := by
    cases fv with
    | some v => rfl
    | none =>
      cases ev with
      | some v => exact parseList_join_idem upper hu b v
      | none => exact hdv
  refine ⟨?_, list false f.paths e.paths _ hd.1, list true f.checks e.checks _ hd.2⟩
  show f.scan.getD _ = _
  cases f.scan <;> rfl

theorem parseList_false_indep (upper upper' : Nat → Nat) (s : Str) :
    parseList upper false s = parseList upper' false s := by
  simp [parseList_order]

/-- the defaults regenerated from /repo are normal for every case mapping (paths are not upper-cased,
    the default check list is empty) -/
theorem repoDefaults_normal (upper : Nat → Nat) : DefaultsNormal upper repoDefaults := by
  constructor
  · rw [parseList_false_indep upper id]; decide +kernel
  · have h : repoDefaults.excludeChecks = [] := by decide +kernel
    rw [h]; rfl

/-- the documented defaults: scan-tests off, exclude-paths = testdata, exclude-checks empty -/
theorem repoDefaults_documented :
    repoDefaults.scanTests = false ∧ repoDefaults.excludePaths = [ofString "testdata"] ∧
    repoDefaults.excludeChecks = [] := by decide +kernel

theorem resolve_none (upper lower : Nat → Nat) (d : Defaults) (hd : DefaultsNormal upper d) :
    resolve upper lower d ⟨none, none, none⟩ ⟨none, none, none⟩ = ⟨d.scanTests, d.excludePaths, d.excludeChecks⟩ :=
  (Cfg.mk.injEq ..).mpr ⟨rfl, hd.1, hd.2⟩

/-- with nothing given, the defaults apply (`hu` is not needed: nothing is upper-cased) -/
theorem resolve_default (upper lower : Nat → Nat) (hu : UpperOK upper) :
    resolve upper lower repoDefaults ⟨none, none, none⟩ ⟨none, none, none⟩ =
      ⟨false, [ofString "testdata"], []⟩ := by
  obtain ⟨d1, d2, d3⟩ := repoDefaults_documented
  rw [resolve_none upper lower _ (repoDefaults_normal upper), d1, d2, d3]

/-- an environment variable set to the empty string counts as set: empty list (not the default) -/
theorem env_empty_is_set (upper lower : Nat → Nat) (hu : UpperOK upper) (d : Defaults) (hd : DefaultsNormal upper d)
    (e : Env) (f : Flags) (hf : f.paths = none) (he : e.paths = some []) :
    (resolve upper lower d e f).excludePaths = [] := by
  have := (resolve_precedence upper lower hu d hd e f).2.1
  rw [this, hf, he]; rfl

/-- a boolean variable is true exactly for 1 / t / true / yes / on after trimming and lower-casing -/
theorem parseBool_iff (lower : Nat → Nat) (s : Str) :
    parseBool lower s = true ↔
      (trim s).map lower ∈ [ofString "1", ofString "t", ofString "true", ofString "yes", ofString "on"] := by
  simp only [parseBool, Bool.or_eq_true, beq_iff_eq, List.mem_cons, List.not_mem_nil, or_false, or_assoc]

/-- check codes are upper-cased, paths are not -/
theorem checks_upper (upper : Nat → Nat) (s : Str) (x : Str) (hx : x ∈ parseList upper true s) :
    ∃ t : Str, x = t.map upper := by
  obtain ⟨part, _, _, h⟩ := (parseList_char upper true s x).1 hx
  exact ⟨trim part, by simpa using h⟩

/-- items are never empty, have no surrounding blanks and contain no comma -/
theorem items_wellformed (upper : Nat → Nat) (hu : UpperOK upper) (b : Bool) (s x : Str)
    (hx : x ∈ parseList upper b s) : x ≠ [] ∧ Trimmed x ∧ comma ∉ x :=
  let h := parseList_item upper hu b s x hx
  ⟨h.1, h.2.1, h.2.2.1⟩

/-! ## Non-vacuity (ASCII upper-casing satisfies nothing here by `decide` for all c, so the examples are concrete) -/
def asciiUpper (c : Nat) : Nat := if 97 ≤ c ∧ c ≤ 122 then c - 32 else c
def asciiLower (c : Nat) : Nat := if 65 ≤ c ∧ c ≤ 90 then c + 32 else c

theorem isSpace_ascii {c : Nat} (h : isSpace c = true) : c ≤ 32 ∨ 0x85 ≤ c := by
  simp only [isSpace, Bool.or_eq_true, beq_iff_eq, Bool.and_eq_true, decide_eq_true_eq] at h
  omega

theorem asciiUpper_ok : UpperOK asciiUpper := by
  have key (c : Nat) : asciiUpper (asciiUpper c) = asciiUpper c ∧ (c ≠ comma → asciiUpper c ≠ comma) ∧
      (isSpace c = false → isSpace (asciiUpper c) = false) := by
    by_cases h : 97 ≤ c ∧ c ≤ 122
    · -- a lower-case letter goes to an upper-case one, which is no lower-case letter, comma or blank
      have e : asciiUpper c = c - 32 := if_pos h
      have hk : 65 ≤ c - 32 ∧ c - 32 ≤ 90 := ⟨Nat.le_sub_of_add_le h.1, Nat.sub_le_of_le_add h.2⟩
      rw [e]
      generalize c - 32 = k at hk
      have : ¬ (97 ≤ k ∧ k ≤ 122) ∧ k ≠ comma ∧ ¬ (k ≤ 32 ∨ 0x85 ≤ k) := by unfold comma; omega
      exact ⟨if_neg this.1, fun _ => this.2.1, fun _ => Bool.eq_false_iff.2 fun hs => this.2.2 (isSpace_ascii hs)⟩
    · have e : asciiUpper c = c := if_neg h
      rw [e]
      exact ⟨e, id, id⟩
  exact ⟨fun c => (key c).1, fun c => (key c).2.1, fun c => (key c).2.2⟩

example : parseList asciiUpper true (ofString " imm01 , ,ctor,, Tonl02 ") =
    [ofString "IMM01", ofString "CTOR", ofString "TONL02"] := by decide +kernel
example : parseBool asciiLower (ofString "  YeS ") = true ∧ parseBool asciiLower (ofString "2") = false := by decide +kernel
example : (resolve asciiUpper asciiLower repoDefaults ⟨some (ofString "on"), some [], some (ofString "imm")⟩
    ⟨none, none, some (ofString "ctor01")⟩) = ⟨true, [], [ofString "CTOR01"]⟩ := by decide +kernel

end GGV.Props.C18
