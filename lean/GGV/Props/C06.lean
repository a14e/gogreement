import GGV.Props.C12
/-!
# C06 — Annotations cross package boundaries intact, whatever the driver or run set (partial)

What the model carries: the fact payload is serialisable field by field (T4), every analyzer exports its fact
unconditionally (T3: measured on an empty package), each analyzer has its own fact type, the
indices treat the current package and its direct imports uniformly and depend only on them.
Not exhibited by the model: gob's byte encoding, vetx files, the drivers — exercised by the `drivers` suite.
-/
namespace GGV.Props.C06
open GGV.Model GGV.Model.Prog

/-- every field of the seven structs that travel as facts is exported and gob-transmissible -/
theorem facts_serialisable : GGV.Gen.factFields.all (fun f => f.2.2.1 && f.2.2.2.2) = true := by decide +kernel

/-- one distinct fact wrapper type per fact-exporting analyzer, each a registered wrapper -/
theorem fact_types_distinct :
    (GGV.Gen.analyzers.flatMap (·.facts)).Nodup ∧
    (GGV.Gen.analyzers.flatMap (·.facts)).all (fun f => GGV.Gen.factWrappers.contains f) = true := by decide +kernel

/-- facts are exported unconditionally: run on a package that contains nothing at all (measured on the linked
    analyzers by T3), every analyzer still exports exactly the facts it declares — no data-dependent return
    precedes the export, so an importer always finds a fact for each of its imports -/
theorem export_unconditional :
    GGV.Gen.analyzers.all (fun a => a.exportedOnEmpty == a.facts) = true := by decide +kernel

/-- the analyzers that export facts other than the reader itself require the annotation reader (so the facts they
    re-export are its result), the configuration and the ignore reader -/
theorem checkers_require_reader :
    (GGV.Gen.analyzers.filter (fun a => !a.facts.isEmpty && a.name != "annotationreader")).all
      (fun a => a.requires.contains "annotationreader" && a.requires.contains "config" && a.requires.contains "ignorereader") = true := by decide +kernel

/-- **the diagnostics of a package depend only on its own files, the configuration and the facts of its direct
    imports**: `analyze` has no other input; and the current package and an import are indexed by the same
    functions of their annotations (`Env` is one list) -/
theorem depends_only_on_direct_imports (cfg : Cfg) (facts facts' : List (Name × Annotations)) (p : Pkg)
    (h : facts = facts') : analyze cfg facts p = analyze cfg facts' p := by rw [h]

/-- import uniformity: an annotation has the same effect on a lookup whether its package entry is the current
    package's (head of the environment) or an import's (anywhere else) -/
theorem import_uniform (e1 e2 : Env) (entry : Name × Annotations) (pkg ty f x : Name) (k : AKind) (recv name : Name) :
    Env.isImmutable (entry :: e1 ++ e2) pkg ty = Env.isImmutable (e1 ++ entry :: e2) pkg ty ∧
    Env.isMutableField (entry :: e1 ++ e2) pkg ty f = Env.isMutableField (e1 ++ entry :: e2) pkg ty f ∧
    (x ∈ Env.ctorNames (entry :: e1 ++ e2) pkg ty ↔ x ∈ Env.ctorNames (e1 ++ entry :: e2) pkg ty) ∧
    (x ∈ Env.attachments (entry :: e1 ++ e2) pkg k recv name ↔ x ∈ Env.attachments (e1 ++ entry :: e2) pkg k recv name) := by
  have hp : (entry :: e1 ++ e2).Perm (e1 ++ entry :: e2) := by
    simpa using (List.perm_middle (a := entry) (l₁ := e1) (l₂ := e2)).symm
  obtain ⟨h1, h2, _, _, _, h6, h7⟩ := C12.index_order_free _ _ hp pkg ty f k recv name x
  exact ⟨h1, h2, h6, h7⟩

/-- a gob round trip can turn an empty slice into nil and back: the model's lists do not distinguish them,
    and no checker reads an imported position -/
theorem gob_norm_invariant (a : Annotations) : a = { a with immutable := a.immutable ++ [] } := by simp

/-! ## importers see a package's annotations exactly as the package itself does -/

/-- the entries of an environment that speak about package `P` -/
def viewOf (e : Env) (P : Name) : Env := e.filter (fun pa => pa.1 == P)

theorem any_view (e : Env) (P : Name) (q : Name × Annotations → Bool) :
    e.any (fun pa => pa.1 == P && q pa) = (viewOf e P).any (fun pa => pa.1 == P && q pa) := by
  simp only [viewOf, List.any_filter, ← Bool.and_assoc, Bool.and_self]

theorem flatMap_view {β : Type} (e : Env) (P : Name) (g : Name × Annotations → List β) :
    e.flatMap (fun pa => if pa.1 == P then g pa else []) = (viewOf e P).flatMap (fun pa => if pa.1 == P then g pa else []) := by
  induction e with
  | nil => rfl
  | cons a r ih =>
    rw [viewOf, List.filter_cons, List.flatMap_cons, ih]
    cases h : a.1 == P
    · rfl
    · simp only [if_true, List.flatMap_cons, h]; rfl

/-- **importer as declarer**: take a type `ty` of package `P`, and two analysed packages (the declaring one and an
    importer, or two importers) whose environments hold the same entries about `P`. Outside `P`'s constructors of
    `ty`, a field write through a value of that type, an instantiation of it, and a call of one of its @testonly
    methods or of a @testonly function of `P` get the same verdict in both. -/
theorem importer_as_declarer (c c' : WalkCtx) (fn fn' : Name) (P ty : Name)
    (hview : viewOf c.env P = viewOf c'.env P)
    (hfn : c.inConstructor fn P ty = false) (hfn' : c'.inConstructor fn' P ty = false)
    (xTy : Option Ty) (hx : typeInfo xTy = some (P, ty)) (field m f : Name) :
    immFieldHit c fn xTy field = immFieldHit c' fn' xTy field ∧
    ctorHit c fn (some (P, ty)) = ctorHit c' fn' (some (P, ty)) ∧
    tonlCall c (.sel none m xTy) = tonlCall c' (.sel none m xTy) ∧
    tonlCall c (.sel (some P) f none) = tonlCall c' (.sel (some P) f none) := by
  refine ⟨?_, ?_, ?_, ?_⟩
  · simp only [immFieldHit, hx, hfn, hfn', Env.isImmutable, Env.isMutableField, any_view c.env, any_view c'.env, hview]
  · simp only [ctorHit, hfn, hfn', Env.ctorNames, flatMap_view c.env, flatMap_view c'.env, hview]
  · simp only [tonlCall, hx, Env.testOnlyMethod, any_view c.env, any_view c'.env, hview]
  · simp only [tonlCall, Env.testOnlyFunc, any_view c.env, any_view c'.env, hview]

/-- the hypothesis is met by the declaring package and its importers: the declaring package indexes its own
    annotations first, an importer finds the same entry among its facts (no other entry speaks about `P`) -/
example (P : Name) (a : Annotations) (pre post own : Env)
    (h1 : viewOf pre P = []) (h2 : viewOf post P = []) (h3 : viewOf own P = []) :
    viewOf ((P, a) :: own) P = viewOf (pre ++ (P, a) :: post) P := by
  unfold viewOf at *
  simp [h1, h2, h3]

end GGV.Props.C06
