import GGV.Props.C16
import GGV.Props.C03
/-!
# C07 — @ignore suppresses exactly the diagnostics in its scope that match its codes

Scopes. `scopeOf` (the model of `ReadIgnoreAnnotations`' range computation: `findInlineNode`,
`findNextNodeAfterComment`) is proven equal to the four scopes the property words, under a decidable
hypothesis about the node list that every check evaluates on the real trees (`MonoCut`: in preorder, once a
node starts at / after the comment all later nodes do; true of go/ast trees for comments inside bodies).

Filtering. A diagnostic of the immutable / constructor checkers is reported iff it is raised and not
`Suppressed` (C16) by the package's markers; for the once-per-file codes the reported use is the first one
that is not suppressed (C03 / C04 `FirstUnsuppressed`).
-/
namespace GGV.Props.C07
open GGV.Model GGV.Model.Prog

/-! ## own source line when it trails code -/

/-- code on the comment's line before the comment: a node that starts before the comment and starts or ends on its line -/
def lineHit (cpos cline : Int) (n : Node) : Bool :=
  decide (n.pos < cpos) && (n.startLine == cline || n.endLine == cline)

theorem inlineWalk_true (cpos cline : Int) (k : Nat) (l : List Node) : inlineWalk cpos cline true k l = true := by
  rw [inlineWalk_eq]
  refine pruneWalk_fixed _ true k l fun n _ => ?_
  unfold inlineStep
  split <;> (try split) <;> rfl

theorem inlineWalk_allGe (cpos cline : Int) (found : Bool) (k : Nat) (l : List Node)
    (h : ∀ n ∈ l, n.pos ≥ cpos) : inlineWalk cpos cline found k l = found := by
  rw [inlineWalk_eq]
  exact pruneWalk_fixed _ found k l fun n hn => by rw [inlineStep, if_pos (h n hn)]

/-- in preorder, the nodes starting before the comment form a prefix -/
def MonoCut (cpos : Int) (l : List Node) : Prop :=
  ∃ a b, l = a ++ b ∧ (∀ n ∈ a, n.pos < cpos) ∧ (∀ n ∈ b, n.pos ≥ cpos)

theorem inlineWalk_prefix (cpos cline : Int) (found : Bool) (a b : List Node)
    (ha : ∀ n ∈ a, n.pos < cpos) (hb : ∀ n ∈ b, n.pos ≥ cpos) :
    inlineWalk cpos cline found 0 (a ++ b) = (found || a.any (lineHit cpos cline)) := by
  induction a generalizing found with
  | nil => simp [inlineWalk_allGe cpos cline found 0 b hb]
  | cons n r ih =>
    have hn : n.pos < cpos := ha n (by simp)
    have hr : ∀ m ∈ r, m.pos < cpos := fun m hm => ha m (by simp [hm])
    simp only [List.cons_append, inlineWalk]
    rw [if_neg (by omega)]
    by_cases hl : (n.startLine == cline || n.endLine == cline) = true
    · rw [inlineWalk_true]
      simp [lineHit, hn, hl]
    · rw [ih found hr]
      simp [lineHit, hl]

/-- **the walk of `findInlineNode` finds code on the comment's line iff there is some** -/
theorem inline_iff (cpos cline : Int) (l : List Node) (hm : MonoCut cpos l) :
    inlineWalk cpos cline false 0 l = true ↔ ∃ n ∈ l, lineHit cpos cline n = true := by
  obtain ⟨a, b, rfl, ha, hb⟩ := hm
  rw [inlineWalk_prefix cpos cline false a b ha hb]
  simp only [Bool.false_or, List.any_eq_true, List.mem_append]
  constructor
  · rintro ⟨n, hn, h⟩; exact ⟨n, Or.inl hn, h⟩
  · rintro ⟨n, hn | hn, h⟩
    · exact ⟨n, hn, h⟩
    · exfalso
      have := hb n hn
      simp only [lineHit, Bool.and_eq_true, decide_eq_true_eq] at h
      omega

theorem prevEndsOnLine_false (f : File) (cm : Comment)
    (hprev : ∀ i pd, declIndex f.decls cm.pos = i + 1 → f.decls[i]? = some pd → pd.endLine ≠ cm.line) :
    prevEndsOnLine f cm = false := by
  unfold prevEndsOnLine
  cases hi : declIndex f.decls cm.pos with
  | zero => rfl
  | succ i =>
    simp only
    cases hpd : f.decls[i]? with
    | none => rfl
    | some pd =>
      have := hprev i pd hi hpd
      simp [this]

/-- scope 4, **its own source line when it trails code**: inside a declaration, the range is
    [start of the comment's line, end of the comment] exactly when some node of the declaration starts before the
    comment and starts or ends on the comment's line; a comment trailing the last token of the previous
    declaration is inline as well -/
theorem scope_line (f : File) (cm : Comment) (d : Decl)
    (hd : f.decls[declIndex f.decls cm.pos]? = some d) (hin : d.pos ≤ cm.pos)
    (hprev : ∀ i pd, declIndex f.decls cm.pos = i + 1 → f.decls[i]? = some pd → pd.endLine ≠ cm.line)
    (hm : MonoCut cm.pos d.nodes) :
    findInline f cm = (if ∃ n ∈ d.nodes, lineHit cm.pos cm.line n = true then some (cm.lineStart, cm.stop) else none) := by
  unfold findInline
  rw [prevEndsOnLine_false f cm hprev]
  simp only [Bool.false_eq_true, if_false, hd]
  rw [if_neg (by omega)]
  by_cases hex : ∃ n ∈ d.nodes, lineHit cm.pos cm.line n = true
  · rw [if_pos hex, if_pos ((inline_iff cm.pos cm.line d.nodes hm).2 hex)]
  · rw [if_neg hex]
    have : ¬ inlineWalk cm.pos cm.line false 0 d.nodes = true := fun h => hex ((inline_iff cm.pos cm.line d.nodes hm).1 h)
    simp [this]

/-- a comment that trails the last token of the preceding top-level declaration is inline for that line -/
theorem scope_line_after_decl (f : File) (cm : Comment) (i : Nat) (pd : Decl)
    (hi : declIndex f.decls cm.pos = i + 1) (hpd : f.decls[i]? = some pd) (hl : pd.endLine = cm.line) :
    findInline f cm = some (cm.lineStart, cm.stop) := by
  unfold findInline prevEndsOnLine
  simp [hi, hpd, hl]

/-! ## the whole following statement when it stands alone inside a body -/

theorem nextWalk_fixed (cpos : Int) (st : Int × Int) (k : Nat) (l : List Node)
    (h0 : st.1 ≠ 0) (h : ∀ n ∈ l, n.pos ≥ st.1) : nextWalk cpos st k l = st := by
  rw [nextWalk_eq]
  refine pruneWalk_fixed _ st k l fun n hn => ?_
  unfold nextStep
  split
  · rfl
  · rw [if_neg (by simp only [Bool.or_eq_true, beq_iff_eq, decide_eq_true_eq, not_or]; exact ⟨h0, Int.not_lt.2 (h n hn)⟩)]

theorem nextWalk_prefix (cpos : Int) (st : Int × Int) (a rest : List Node) (ha : ∀ n ∈ a, n.pos ≤ cpos) :
    nextWalk cpos st 0 (a ++ rest) = nextWalk cpos st 0 rest := by
  rw [nextWalk_eq, nextWalk_eq]
  exact pruneWalk_append _ st a rest fun n hn => by rw [nextStep, if_pos (ha n hn)]

/-- the preorder list, cut at the first node that starts after the comment, with everything later starting no earlier -/
def NextCut (cpos : Int) (l : List Node) (n : Node) : Prop :=
  ∃ a b, l = a ++ n :: b ∧ (∀ m ∈ a, m.pos ≤ cpos) ∧ cpos < n.pos ∧ (∀ m ∈ b, m.pos ≥ n.pos)

/-- scope 3, **the whole following statement**: inside a declaration, a standalone comment covers
    [comment, END of the first node that starts after it] — the node with the smallest start position after the
    comment, in its whole extent (F4 repaired: the end, not the start) -/
theorem scope_stmt (cpos : Int) (l : List Node) (n : Node) (h : NextCut cpos l n) (hpos : 0 < n.pos) :
    (nextWalk cpos (0, 0) 0 l).2 = n.stop ∧ (∀ m ∈ l, cpos < m.pos → n.pos ≤ m.pos) := by
  obtain ⟨a, b, rfl, ha, hn, hb⟩ := h
  constructor
  · rw [nextWalk_prefix cpos (0, 0) a (n :: b) ha]
    simp only [nextWalk]
    rw [if_neg (by omega), if_pos (by simp)]
    rw [nextWalk_fixed cpos (n.pos, n.stop) n.size b (by simp; omega) (by simpa using hb)]
  · intro m hm hlt
    simp only [List.mem_append, List.mem_cons] at hm
    rcases hm with hm | rfl | hm
    · have := ha m hm; omega
    · omega
    · exact hb m hm

/-- no node after the comment inside the declaration: the marker covers just the comment -/
theorem scope_stmt_none (cpos : Int) (l : List Node) (h : ∀ m ∈ l, m.pos ≤ cpos) :
    (nextWalk cpos (0, 0) 0 l).2 = 0 := by
  have := nextWalk_prefix cpos (0, 0) l [] h
  simp only [List.append_nil] at this
  rw [this]; rfl

/-! ## the whole following declaration / the whole file -/

/-- scope 1, **the whole file**: a comment before the package clause covers [comment, end of file] -/
theorem scope_file (f : File) (cm : Comment) (h : cm.pos < f.packagePos) : scopeOf f cm = (cm.pos, f.fileEnd) := by
  simp [scopeOf, h]

/-- scope 2, **the whole following declaration**: a standalone comment before a top-level declaration covers
    [comment, end of that declaration] -/
theorem scope_decl (f : File) (cm : Comment) (d : Decl) (hpk : f.packagePos ≤ cm.pos)
    (hd : f.decls[declIndex f.decls cm.pos]? = some d) (hbefore : cm.pos < d.pos) (hstop : d.stop ≠ 0)
    (hprev : ∀ i pd, declIndex f.decls cm.pos = i + 1 → f.decls[i]? = some pd → pd.endLine ≠ cm.line) :
    scopeOf f cm = (cm.pos, d.stop) := by
  have hinl : findInline f cm = none := by
    unfold findInline
    rw [prevEndsOnLine_false f cm hprev]
    simp [hd, hbefore]
  have hnext : findNext f cm.pos = d.stop := by simp [findNext, hd, hbefore]
  unfold scopeOf
  rw [if_neg (by omega), hinl, hnext]
  simp [hstop]

/-- the declaration found for a comment is the first one that ends after it -/
theorem declIndex_spec (decls : List Decl) (pos : Int) (d : Decl) (h : decls[declIndex decls pos]? = some d) :
    d.stop > pos ∧ ∀ j, j < declIndex decls pos → ∀ e, decls[j]? = some e → ¬ e.stop > pos := by
  unfold declIndex at h ⊢
  cases hf : decls.findIdx? (fun d => decide (d.stop > pos)) with
  | none => simp [hf] at h
  | some i =>
    simp only [hf] at h ⊢
    rw [List.findIdx?_eq_some_iff_getElem] at hf
    obtain ⟨hlt, hp, hmin⟩ := hf
    constructor
    · have : decls[i] = d := by simpa [List.getElem?_eq_getElem hlt] using h
      rw [← this]; simpa using hp
    · intro j hj e he
      have hjl : j < decls.length := by omega
      have : decls[j] = e := by simpa [List.getElem?_eq_getElem hjl] using he
      rw [← this]
      simpa using hmin j hj

/-! ## filtering: reported = raised and not suppressed -/

/-- marker ranges start at real positions (comment positions and line starts are ≥ 1) -/
def PosValid (p : Pkg) : Prop := ∀ f ∈ p.files, (1 ≤ f.packagePos) ∧ ∀ cm ∈ f.comments, 1 ≤ cm.pos ∧ 1 ≤ cm.lineStart

theorem findInline_some (f : File) (cm : Comment) (r : Int × Int) (h : findInline f cm = some r) :
    r = (cm.lineStart, cm.stop) := by
  unfold findInline at h
  split at h
  · simp at h; exact h.symm
  · split at h
    · simp at h
    · split at h
      · simp at h
      · split at h
        · simp at h; exact h.symm
        · simp at h

/-- codes match case-insensitively: the marker's codes are the upper-cased tokens of the comment -/
theorem marker_codes_upper (f : File) (cm : Comment) (m : Marker) (h : markerOf f cm = some m) :
    ∃ codes, Grammar.parseIgnore cm.text = some codes ∧ m.codes = codes.map codeString ∧
      m.start = (scopeOf f cm).1 ∧ m.stop = (scopeOf f cm).2 := by
  unfold markerOf at h
  split at h
  · simp at h
  · split at h
    · rename_i codes hc
      simp only [Option.some.injEq] at h
      subst h
      exact ⟨codes, hc, rfl, rfl, rfl⟩
    · simp at h

theorem scopeOf_fst (f : File) (cm : Comment) : (scopeOf f cm).1 = cm.pos ∨ (scopeOf f cm).1 = cm.lineStart := by
  unfold scopeOf
  split
  · exact .inl rfl
  · split
    · next r hr => exact .inr (congrArg Prod.fst (findInline_some f cm r hr))
    · exact .inl rfl

theorem ignoreOps_startsValid (cfg : Cfg) (p : Pkg) (hv : PosValid p) : C16.StartsValid (ignoreOps cfg p) := by
  intro m hm
  simp only [ignoreOps, List.mem_append, List.mem_flatMap, List.mem_filterMap, Option.map_eq_some_iff, Op.add.injEq,
    exists_eq_right] at hm
  rcases hm with hm | ⟨f, hf, cm, hcm, hmk⟩
  · split at hm <;> simp at hm
  · obtain ⟨_, _, _, hst, _⟩ := marker_codes_upper f cm m hmk
    obtain ⟨h1, h2⟩ := (hv f (mem_filesToScan.1 hf).1).2 cm hcm
    rw [hst]
    rcases scopeOf_fst f cm with e | e <;> rw [e] <;> assumption

/-- **reported = raised and not suppressed**: for the report-time filtered checkers (IMM, CTOR) a raised
    diagnostic survives iff no marker / excluded check of the package suppresses it in the sense of C16 -/
theorem ignore_exact_report (cfg : Cfg) (p : Pkg) (hv : PosValid p) (raw : List Diag) (d : Diag) :
    d ∈ raw.filter (fun d => !(readIgnores cfg p).contains d.code d.pos) ↔
      d ∈ raw ∧ ¬ C16.Suppressed hier (ignoreOps cfg p) d.code d.pos := by
  rw [List.mem_filter, Bool.not_eq_true', Bool.eq_false_iff, ne_eq, readIgnores,
    C16.contains_iff (ignoreOps cfg p) (ignoreOps_startsValid cfg p hv)]

/-- for the detection-time filtered checkers (TONL, PKGO) the suppression test of the dedup fold is the same
    C16 relation; with C03 / C04 `FirstUnsuppressed` this is "the report moves to the next unsuppressed use" -/
theorem ignore_exact_detect (cfg : Cfg) (p : Pkg) (hv : PosValid p) (d : Diag) :
    GGV.Props.C03.sup (readIgnores cfg p) d = true ↔ C16.Suppressed hier (ignoreOps cfg p) d.code d.pos := by
  exact C16.contains_iff (ignoreOps cfg p) (ignoreOps_startsValid cfg p hv) d.code d.pos

/-- what the checkers raise does not depend on comments at all: only the filter does -/
theorem raise_independent_of_comments (cfg : Cfg) (c : WalkCtx) (p p' : Pkg)
    (h : p'.files = p.files.map fun f => { f with comments := [] }) :
    checkImmutable cfg c p' = checkImmutable cfg c p ∧ checkConstructor cfg c p' = checkConstructor cfg c p := by
  have hf := filesToScan_map (fun f => { f with comments := [] }) (fun _ => rfl) cfg h
  constructor
  · unfold checkImmutable; rw [hf]; simp [List.flatMap_map]
  · unfold checkConstructor; rw [hf]; simp [List.flatMap_map]

/-! ## Non-vacuity: concrete node lists meeting the cut hypotheses -/
def exNodes : List Node :=
  [⟨.funcDecl [102], 10, 90, 1, 9, 4⟩, ⟨.other, 20, 88, 1, 9, 3⟩, ⟨.other, 30, 40, 2, 2, 0⟩,
   ⟨.assign .assign [], 60, 70, 4, 4, 1⟩, ⟨.other, 64, 70, 4, 4, 0⟩]
example : MonoCut 50 exNodes := ⟨exNodes.take 3, exNodes.drop 3, rfl, by decide +kernel, by decide +kernel⟩
example : NextCut 50 exNodes ⟨.assign .assign [], 60, 70, 4, 4, 1⟩ :=
  ⟨exNodes.take 3, exNodes.drop 4, rfl, by decide +kernel, by decide +kernel, by decide +kernel⟩
example : (nextWalk 50 (0, 0) 0 exNodes).2 = 70 := by decide +kernel
example : inlineWalk 42 2 false 0 exNodes = true := by decide +kernel

end GGV.Props.C07
