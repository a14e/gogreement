import GGV.Model.Implements
/-!
# C05 — @implements verdicts agree with Go's own type checker

The property names go/types as the oracle. The extractor hands the model (a) the method sets go/types computes
(for `*T`, with a flag for methods absent from the method set of `T`; the interface's own methods for a defined
interface type), with method identities (`Func.Id`) and signatures numbered up to `types.Identical`, and (b)
go/types' verdict for every (type, interface, value/pointer) triple. The theorems characterise the cascade and
the missing-method computation in terms of Go's rule *"every method of the interface is in the method set of
the type (value form: methods of T; pointer form: methods of *T) with an identical signature"*; the per-run
comparison `impl = implspec` checks the real tool against (b) on every generated scenario.
-/
namespace GGV.Props.C05
open GGV.Model GGV.Model.Prog

/-- the import list binds the qualifier by one of `ImportMap.Find`'s four rules -/
def Binds (i : ImportSpec) (q : Name) : Prop :=
  i.alias = some q ∨ i.declName = some q ∨ i.path = q ∨ (47 :: q).isSuffixOf i.path = true

theorem importFind_eq (imports : List ImportSpec) (q : Name) (hq : q ≠ []) :
    importFind imports q = Option.map (·.path)
      ((imports.find? fun i => i.alias == some q).or <|
       (imports.find? fun i => i.declName == some q && q != []).or <|
       (imports.find? fun i => i.path == q).or <|
       imports.find? fun i => (47 :: q).isSuffixOf i.path) := by
  rw [importFind, if_neg hq]
  cases imports.find? fun i => i.alias == some q with
  | some _ => rfl
  | none =>
    cases imports.find? fun i => i.declName == some q && q != [] with
    | some _ => rfl
    | none =>
      cases imports.find? fun i => i.path == q with
      | some _ => rfl
      | none => cases imports.find? fun i => (47 :: q).isSuffixOf i.path <;> rfl

/-- **IMPL01 iff the package qualifier is not bound by any import of the file** (explicit alias, the imported
    package's declared name; and the path fallbacks the pinned suite demands) -/
theorem importFind_none_iff (imports : List ImportSpec) (q : Name) (hq : q ≠ []) :
    importFind imports q = none ↔ ∀ i ∈ imports, ¬ Binds i q := by
  rw [importFind_eq imports q hq]
  simp only [Option.map_eq_none_iff, Option.or_eq_none_iff, List.find?_eq_none]
  simp only [Binds, not_or, forall_and, Bool.and_eq_true, beq_iff_eq, bne_iff_ne, ne_eq, hq, not_false_eq_true, and_true]

/-- an explicit alias wins over every other rule (priority 1) -/
theorem importFind_alias_first (imports : List ImportSpec) (q : Name) (hq : q ≠ []) (i : ImportSpec)
    (h : imports.find? (fun i => i.alias == some q) = some i) : importFind imports q = some i.path := by
  rw [importFind_eq imports q hq, h]; rfl

/-- **the cascade is exclusive and ordered**: IMPL01 iff the package is not resolved; otherwise IMPL02 iff no interface of
    that name is declared there; otherwise IMPL03 iff some method is missing; a correct annotation yields nothing -/
theorem cascade_exclusive (info : ImplInfo) (a : ImplAnn) :
    (implOutcome info a = .impl01 ↔ a.path = none) ∧
    (implOutcome info a = .impl02 ↔ ∃ p, a.path = some p ∧ info.ifaces.find? (fun i => i.pkg == p && i.name == a.iface) = none) ∧
    (∀ m, implOutcome info a = .impl03 m → ∃ p iface t, a.path = some p ∧
        info.ifaces.find? (fun i => i.pkg == p && i.name == a.iface) = some iface ∧
        info.types.find? (fun t => t.name == a.onType && t.isNamed) = some t ∧
        m = (missingMethods t iface a.isPtr).map (·.name) ∧ m ≠ []) := by
  unfold implOutcome
  cases a.path with
  | none => exact ⟨⟨fun _ => rfl, fun _ => rfl⟩, ⟨nofun, nofun⟩, nofun⟩
  | some p =>
    simp only [Option.some.injEq, exists_eq_left', reduceCtorEq, iff_false]
    cases hf : info.ifaces.find? (fun i => i.pkg == p && i.name == a.iface) with
    | none => exact ⟨nofun, ⟨fun _ => rfl, fun _ => rfl⟩, nofun⟩
    | some iface =>
      cases info.types.find? (fun t => t.name == a.onType && t.isNamed) with
      | none => exact ⟨nofun, ⟨nofun, nofun⟩, nofun⟩
      | some t =>
        dsimp only
        split
        · exact ⟨nofun, ⟨nofun, nofun⟩, nofun⟩
        · next he =>
          refine ⟨nofun, ⟨nofun, nofun⟩, fun m hm => ?_⟩
          cases hm
          exact ⟨p, iface, t, rfl, hf, rfl, rfl, fun h => he (List.isEmpty_iff.2 (List.map_eq_nil_iff.1 h))⟩

/-- the method set the form `T` / `*T` offers: all methods of `*T` for the pointer form (none if `T` is an
    interface type: a pointer to an interface has no methods), the methods of `T` itself for the value form -/
def methodSetOf (t : ImplType) (ptr : Bool) : List TypeMeth :=
  if ptr && t.isInterface then []
  else if ptr then t.methods
  else t.methods.filter (fun m => !m.needsPtr)

theorem find?_unique {α β} [BEq β] [LawfulBEq β] (key : α → β) {l : List α}
    (huniq : ∀ x ∈ l, ∀ y ∈ l, key x = key y → x = y) (k : β) (x : α) :
    l.find? (fun y => key y == k) = some x ↔ x ∈ l ∧ key x = k := by
  constructor
  · exact fun h => ⟨List.mem_of_find?_eq_some h, beq_iff_eq.1 (List.find?_some h :)⟩
  · rintro ⟨hx, rfl⟩
    cases hf : l.find? (fun y => key y == key x) with
    | none => exact absurd (beq_self_eq_true _) (List.find?_eq_none.1 hf x hx)
    | some y => rw [huniq y (List.mem_of_find?_eq_some hf) x hx (beq_iff_eq.1 (List.find?_some hf :))]

/-- **the methods IMPL03 lists are exactly the interface methods that are not in the method set with an identical
    signature** (method identities are unique within a method set, as in go/types) -/
theorem missing_exact (t : ImplType) (iface : IfaceDecl) (ptr : Bool)
    (huniq : ∀ m1 ∈ methodSetOf t ptr, ∀ m2 ∈ methodSetOf t ptr, m1.id = m2.id → m1 = m2) (im : MSig) :
    im ∈ missingMethods t iface ptr ↔
      im ∈ iface.methods ∧ ¬ ∃ tm ∈ methodSetOf t ptr, tm.id = im.id ∧ tm.sig = im.sig := by
  rw [missingMethods, List.mem_filter]
  refine and_congr_right fun _ => ?_
  simp only [← and_assoc, ← find?_unique TypeMeth.id huniq]
  show (match (methodSetOf t ptr).find? (fun tm => tm.id == im.id) with
    | none => true
    | some tm => tm.sig != im.sig) = true ↔ _
  cases (methodSetOf t ptr).find? (fun tm => tm.id == im.id) <;> simp

/-- a correct annotation produces no diagnostic -/
theorem correct_is_silent (a : ImplAnn) : implDiagOf a .ok = none ∧ implDiagOf a .skipped = none := ⟨rfl, rfl⟩

/-- two signatures match iff go/types calls them identical: signatures are numbered up to `types.Identical` by the
    extractor, so this is equality of class ids (the reduction is the encoding; `typesMatch` uses `types.Identical` since F9) -/
theorem match_iff_identical (tm : TypeMeth) (im : MSig) : (tm.sig != im.sig) = false ↔ tm.sig = im.sig := by
  simp

/-- value form: a method that needs a pointer receiver (absent from the method set of T) does not count, also when it
    is promoted through an embedded field -/
theorem value_form_excludes_pointer_methods (t : ImplType) (m : TypeMeth) (h : m ∈ methodSetOf t false) : m.needsPtr = false := by
  simp only [methodSetOf, Bool.false_and, Bool.false_eq_true, if_false, List.mem_filter] at h
  simpa using h.2

/-! ## Non-vacuity -/
def exIface : IfaceDecl := ⟨ascii "exp/d", ascii "Sealed", [⟨ascii "Name", ascii "Name", 0⟩, ⟨ascii "exp/d.seal", ascii "seal", 1⟩]⟩
def exType : ImplType := ⟨ascii "T", true, false, [⟨ascii "Name", ascii "Name", 0, false⟩, ⟨ascii "exp/p.seal", ascii "seal", 1, false⟩], []⟩
/-- F17's witness: p.seal is not d.seal -/
example : (missingMethods exType exIface false).map (·.name) = [ascii "seal"] := by decide +kernel
example : importFind [⟨some (ascii "yml"), ascii "exp/e/yaml.v3", some (ascii "yaml")⟩] (ascii "yaml") = some (ascii "exp/e/yaml.v3") := by decide +kernel
example : importFind [⟨none, ascii "exp/e/yaml.v3", some (ascii "yaml")⟩] (ascii "v3") = none := by decide +kernel

end GGV.Props.C05
