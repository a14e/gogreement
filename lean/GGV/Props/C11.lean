import GGV.Props.C12
/-!
# C11 — Results are deterministic and independent of analysis schedule (partial)

* `shared_state_justified` (decided over T6, the inventory of package-level variables and their write sites
  regenerated from /repo): after initialisation the only package-level variable that is assigned is
  `cachedConfig`, inside `runConfig` (under `configOnce.Do`); all other sites are method calls on regexes and
  Aho-Corasick matchers whose methods (`FindStringSubmatch`, `Contains`) do not write.
* `once_deterministic`: in the interleaving model of N workers each doing `Once.Do(init); read`, every read
  returns init's value, for all schedules (assumption: `sync.Once`'s contract — `Do` returns only after the first
  call of `f` has completed).
* order independence of the indices and of the reported key sets: C12 (`index_order_free`, `reported_keys_order_free`).
Not exhibited: the Go memory model, races inside x/tools — exercised by the `determinism` suite.
-/
namespace GGV.Props.C11

/-- a post-initialisation write site of a package-level variable that is harmless under concurrency: an assignment
    inside the function given to `Do` of a package-level `sync.Once`; `Once.Do` itself; any method of `*regexp.Regexp`
    except the configuration method `Longest` ("a Regexp is safe for concurrent use by multiple goroutines, except
    for configuration methods"); the thread-safe lookups of the Aho-Corasick matcher -/
def harmlessWrite (w : String × String × String × String × String) : Bool :=
  w.2.2.1 == "assign-under-once" ||
  (w.2.2.1 == "ptrcall" && w.2.2.2.1 == "sync.Once" && w.2.2.2.2 == "Do") ||
  (w.2.2.1 == "ptrcall" && w.2.2.2.1 == "regexp.Regexp" && w.2.2.2.2 != "Longest") ||
  (w.2.2.1 == "ptrcall" && w.2.2.2.1 == "ahocorasick.Matcher" && (w.2.2.2.2 == "Contains" || w.2.2.2.2 == "MatchThreadSafe"))

/-- after initialisation a package-level variable is only assigned under a `sync.Once`; every other site is a call
    of a method that is safe for concurrent use (decided over T6, regenerated from /repo) -/
theorem shared_state_justified : GGV.Gen.packageVarWrites.all harmlessWrite = true := by decide +kernel

/-- no package-level variable has a map, slice or pointer-to-struct type that a checker fills at run time:
    the variables are the analyzers, the regexes, the matchers, the two code tables, the config cache — or tables of
    read-only data (T6: never written, built from basic types / structs / arrays / slices, slices only ever read) -/
theorem shared_state_inventory :
    GGV.Gen.packageVars.all (fun v =>
      v.2 == "*analysis.Analyzer" || v.2 == "*regexp.Regexp" || v.2 == "*ahocorasick.Matcher" ||
      v.2 == "map[string][]codes.Code" || v.2 == "map[string][]string" || v.2 == "*config.Config" || v.2 == "sync.Once" ||
      v.2 == "read-only data" || v.2 == "read-only list") = true := by decide +kernel

/-- **lookups do not write**: of the methods that the checkers — which run concurrently on one package and share
    the readers' results (the ignore set, the annotations, the configuration) — call on reader / utility types,
    those that assign to their receiver's state (directly or through calls on the same receiver) are called from the
    index-building package only, where they fill an index that belongs to one checker's pass over one package
    (decided over T9, regenerated from /repo). `IgnoreSet.Contains`, the `Has*` / `Get*` / `Match` / `Empty` lookups
    and `Config.FilterFiles` are read-only, so sharing them needs no synchronisation. -/
theorem shared_lookups_read_only :
    GGV.Gen.sharedReadMethods.all (fun m => m.2.1 == "" || m.2.2 == "src/indexing") = true := by decide +kernel

/-- … and the lookup the reporters share is among them -/
theorem contains_is_shared_lookup :
    (GGV.Gen.sharedReadMethods.any (fun m => m.1 == "src/util.IgnoreSet.Contains" && m.2.1 == "")) = true := by decide +kernel

/-! ## `sync.Once` interleavings -/

/-- a worker is before `Do`, inside `Do` running `init`, blocked in `Do` waiting for the running `init`, or past `Do` -/
inductive Phase | start | running | waiting | done | read (v : Nat)
deriving DecidableEq, Repr

structure St where
  cached : Nat            -- the shared variable (cachedConfig), initially the "empty" value 0
  onceDone : Bool         -- sync.Once: f has completed
  onceBusy : Bool         -- sync.Once: f is running
  workers : List Phase

/-- one scheduling step of worker `i`; `v` is the value `init` computes (the same for every caller: it depends
    only on flags and environment) -/
def stepW (v : Nat) (s : St) (i : Nat) : St :=
  match s.workers[i]? with
  | none => s
  | some ph =>
    let set (p : Phase) (s : St) : St := { s with workers := s.workers.set i p }
    match ph with
    | .start =>
      if s.onceDone then set .done s
      else if s.onceBusy then set .waiting s
      else set .running { s with onceBusy := true }
    | .running => set .done { s with cached := v, onceDone := true, onceBusy := false }
    | .waiting => if s.onceDone then set .done s else s
    | .done => set (.read s.cached) s
    | .read _ => s

/-- what a worker's phase says about the shared state: past `Do` means `init` has completed, and a value read is
    `init`'s -/
def PhaseOk (v : Nat) (onceDone : Bool) : Phase → Prop
  | .done => onceDone = true
  | .read x => x = v
  | _ => True

def Inv (v : Nat) (s : St) : Prop :=
  (s.onceDone = true → s.cached = v) ∧ ∀ ph ∈ s.workers, PhaseOk v s.onceDone ph

theorem inv_init (v : Nat) (n : Nat) : Inv v ⟨0, false, false, List.replicate n .start⟩ :=
  ⟨nofun, fun ph h => by rw [List.eq_of_mem_replicate h]; trivial⟩

theorem forall_mem_set {α} {P : α → Prop} {l : List α} {a : α} (i : Nat) (ha : P a) (hl : ∀ x ∈ l, P x) :
    ∀ x ∈ l.set i a, P x :=
  fun x hx => (List.mem_or_eq_of_mem_set hx).elim (hl x) (· ▸ ha)

theorem PhaseOk.mono {v : Nat} {d : Bool} : ∀ {ph : Phase}, PhaseOk v d ph → PhaseOk v true ph
  | .done, _ => rfl
  | .read _, h => h
  | .start, _ | .running, _ | .waiting, _ => trivial

theorem inv_step (v : Nat) (s : St) (i : Nat) (h : Inv v s) : Inv v (stepW v s i) := by
  obtain ⟨h1, h2⟩ := h
  unfold stepW
  cases hw : s.workers[i]? with
  | none => exact ⟨h1, h2⟩
  | some ph =>
    cases ph with
    | start =>
      exact iteInduction (fun hd => ⟨h1, forall_mem_set i hd h2⟩) fun _ =>
        iteInduction (fun _ => ⟨h1, forall_mem_set i trivial h2⟩) fun _ => ⟨h1, forall_mem_set i trivial h2⟩
    | running => exact ⟨fun _ => rfl, forall_mem_set i rfl fun p hp => (h2 p hp).mono⟩
    | waiting => exact iteInduction (fun hd => ⟨h1, forall_mem_set i hd h2⟩) fun _ => ⟨h1, h2⟩
    | done => exact ⟨h1, forall_mem_set i (h1 (h2 _ (List.mem_of_getElem? hw))) h2⟩
    | read x => exact ⟨h1, h2⟩

theorem inv_foldl (v : Nat) (schedule : List Nat) (s : St) (h : Inv v s) : Inv v (schedule.foldl (stepW v) s) := by
  induction schedule generalizing s with
  | nil => exact h
  | cons i r ih => exact ih _ (inv_step v s i h)

/-- **for every schedule** (any sequence of worker indices, any number of workers), every value a worker has read
    is the value `init` computes -/
theorem once_deterministic (v : Nat) (n : Nat) (schedule : List Nat) :
    ∀ ph ∈ (schedule.foldl (stepW v) ⟨0, false, false, List.replicate n .start⟩).workers, ∀ x, ph = .read x → x = v := by
  intro ph hph x e
  subst e
  exact (inv_foldl v schedule _ (inv_init v n)).2 _ hph

/-! ## the run-wide position space

Which other packages are analysed in the same run, and in which order the loader registers files, decides the base of
every file in the `token.FileSet`, i.e. adds a constant to every position of a package. -/
open GGV.Model GGV.Model.Prog in
/-- positions moved by `k` (lines unchanged); 0 stays "no position" -/
def baseShift (k : Nat) : Relay := ⟨fun x => if x ≤ 0 then x else x + k, fun l => l⟩

open GGV.Model GGV.Model.Prog in
theorem baseShift_monotone (k : Nat) : (baseShift k).Monotone :=
  ⟨by intro a b hab; simp only [baseShift]; split <;> split <;> omega, by simp [baseShift], by intro a b e; simpa [baseShift] using e⟩

open GGV.Model GGV.Model.Prog in
/-- **the diagnostics do not depend on where the package lies in the position space**: with every position moved by
    `k`, the annotations read are the same and the diagnostics are the same diagnostics (same codes, same order),
    at the moved positions — whatever else was loaded into the run before the package -/
theorem base_shift_invariant (k : Nat) (cfg : Cfg) (facts : List (Name × Annotations)) (p : Pkg)
    (hv : GGV.Props.C16.StartsValid (ignoreOps cfg p)) :
    (analyze cfg facts (p.mapPos (baseShift k))).ann = (analyze cfg facts p).ann ∧
    (analyze cfg facts (p.mapPos (baseShift k))).diags =
      (analyze cfg facts p).diags.map (Diag.mapPos (baseShift k).pos) :=
  GGV.Props.C12.relayout_invariant (baseShift k) (baseShift_monotone k) cfg facts p hv

open GGV.Model GGV.Model.Prog in
/-- in particular the codes, in order, are the same -/
theorem base_shift_codes (k : Nat) (cfg : Cfg) (facts : List (Name × Annotations)) (p : Pkg)
    (hv : GGV.Props.C16.StartsValid (ignoreOps cfg p)) :
    (analyze cfg facts (p.mapPos (baseShift k))).diags.map (·.code) = (analyze cfg facts p).diags.map (·.code) := by
  rw [(base_shift_invariant k cfg facts p hv).2, List.map_map]
  rfl

end GGV.Props.C11
