import GGV.Lemmas.Attach
import GGV.Lemmas.Walk
import GGV.Props.C15
/-!
# C09 — Code without annotations is never reported

If no doc comment line of a top-level declaration (of the scanned files) begins — after `//` and blanks — with one of
the lowercase annotation keywords, the package has no annotations; and a package whose own annotations and whose
direct imports' annotations are empty gets no diagnostic from any of the four walks, under ANY configuration and
whatever `@ignore` comments it contains. Near-misses (mid-sentence, block comments, other case, longer words,
local declarations, trailing comments) are covered by `C15.near_miss_inert` / `keyword_exact_*`: they do not begin
with a keyword, or are not doc lines of a top-level declaration at all.
-/
namespace GGV.Props.C09
open GGV.Model GGV.Model.Prog GGV.Model.Grammar

/-- no annotation anywhere in sight of the package: its own scanned doc lines and its direct imports' facts -/
def AnnotationFree (cfg : Cfg) (facts : List (Name × Annotations)) (p : Pkg) : Prop :=
  (∀ f ∈ filesToScan cfg p, ∀ d ∈ f.decls, ∀ t ∈ d.docLines, ¬ startsWithKeyword t) ∧
  (∀ fa ∈ facts, fa.2 = {})

theorem env_empty (cfg : Cfg) (facts : List (Name × Annotations)) (p : Pkg) (h : AnnotationFree cfg facts p) :
    ∀ pa ∈ ((p.path, readAnnotations cfg p) :: facts), pa.2 = {} :=
  List.forall_mem_cons.2 ⟨readAnnotations_empty cfg p h.1, h.2⟩

theorem all_of_empty {e : Env} (h : ∀ pa ∈ e, pa.2 = {}) (f : Annotations → Bool) (hf : f {} = true) :
    e.all (fun pa => f pa.2) = true :=
  List.all_eq_true.2 fun pa hpa => by rw [h pa hpa]; exact hf

theorem no_flags (e : Env) (h : ∀ pa ∈ e, pa.2 = {}) :
    e.noImmutable = true ∧ e.noConstructors = true ∧ e.noTestOnly = true ∧ e.noPackageOnly = true :=
  ⟨all_of_empty h (·.immutable.isEmpty) rfl, all_of_empty h (·.constructors.all fun c => c.2.isEmpty) rfl,
    all_of_empty h (·.testonly.isEmpty) rfl, all_of_empty h (·.packageonly.all fun a => a.allowed.isEmpty) rfl⟩

/-- **C09 main theorem**: no annotations ⇒ no diagnostics, for every configuration -/
theorem no_annotations_no_diagnostics (cfg : Cfg) (facts : List (Name × Annotations)) (p : Pkg)
    (h : AnnotationFree cfg facts p) : (analyze cfg facts p).diags = [] := by
  obtain ⟨h1, h2, h3, h4⟩ := no_flags _ (env_empty cfg facts p h)
  simp [analyze, checkImmutable, checkConstructor, checkTestOnly, checkPackageOnly, h1, h2, h3, h4]

/-- … and it exports no annotations either, so annotation-freedom propagates to its importers -/
theorem no_annotations_no_facts (cfg : Cfg) (facts : List (Name × Annotations)) (p : Pkg)
    (h : AnnotationFree cfg facts p) : (analyze cfg facts p).ann = {} :=
  readAnnotations_empty cfg p h.1

/-- a line that does not begin with the exact keyword does not begin with a keyword in the sense used above
    (bridge to C15's `near_miss_inert`) -/
theorem near_miss_inert (text : Bytes)
    (h : ∀ kw ∈ [kwImplements, kwConstructor, kwImmutable, kwTestonly, kwMutable, kwPackageonly],
      ¬ ∃ w1 w2 t, AllWs w1 ∧ AllWs w2 ∧ text = w1 ++ slashes ++ w2 ++ kw ++ t) :
    ¬ startsWithKeyword text := by
  rintro ⟨kw, hkw, t, ht⟩
  rw [C15.near_miss_inert kw text (C15.isKw_of_mem kw hkw) (h kw hkw)] at ht
  cases ht

/-! ## Non-vacuity: near-miss lines are inert, a real annotation is not -/
example : ¬ startsWithKeyword (ascii "// see @immutable for details") := by
  rw [startsWithKeyword_iff, ascii_ofList]; decide +kernel
example : startsWithKeyword (ascii "// @immutable") := ⟨kwImmutable, by simp, [], by rw [ascii_ofList]; decide +kernel⟩

end GGV.Props.C09
