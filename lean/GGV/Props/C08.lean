import GGV.Lemmas.Dedup
import GGV.Props.C16
/-!
# C08 — exclude-checks removes exactly the matching codes, project-wide
-/
namespace GGV.Props.C08
open GGV.Model GGV.Model.Prog

/-- a diagnostic's code is matched by the exclusion list under ALL > category > code -/
def matched (S : List String) (code : String) : Bool := (hier code).any (fun t => S.contains t)

/-- adding project-wide exclusions: suppressed iff matched by the list or suppressed before -/
theorem exclude_module (hr : String → List String) (S : List String) (ops : List Op) (code : String) (pos : Int) :
    C16.Suppressed hr (Op.addModule S :: ops) code pos ↔ (∃ t ∈ hr code, t ∈ S) ∨ C16.Suppressed hr ops code pos :=
  C16.suppressed_cons _

/-- the hierarchy of any code consists of ALL, the code itself and (for a listed code) its category — nothing else -/
theorem hier_members (tbl : CodeTable) (code t : String) (h : t ∈ hierOf tbl code) :
    t = "ALL" ∨ t = code ∨ categoryOf tbl code = some t :=
  C16.mem_hierOf.1 h

/-- `S = ALL` yields none: every code is matched -/
theorem exclude_all_empty (S : List String) (h : "ALL" ∈ S) (code : String) : matched S code = true := by
  unfold matched
  rw [List.any_eq_true]
  exact ⟨"ALL", C16.mem_hierOf.2 (.inl rfl), by simpa using h⟩

/-- tokens that are neither ALL, nor the code, nor its category exclude nothing -/
theorem junk_excludes_nothing (S : List String) (code : String)
    (h : ∀ t ∈ S, t ≠ "ALL" ∧ t ≠ code ∧ categoryOf GGV.Gen.codesByCategory code ≠ some t) : matched S code = false := by
  cases hb : matched S code with
  | false => rfl
  | true =>
    unfold matched at hb
    rw [List.any_eq_true] at hb
    obtain ⟨t, ht, hs⟩ := hb
    have hs' : t ∈ S := by simpa using hs
    obtain ⟨h1, h2, h3⟩ := h t hs'
    rcases hier_members _ code t ht with e | e | e
    · exact absurd e h1
    · exact absurd e h2
    · exact absurd e h3

/-- report-time filter (IMM, CTOR, IMPL): with exclusions `S` in front, the surviving diagnostics are those of the
    unrestricted filter whose code is not matched -/
theorem exclude_filter_report (S : List String) (ops : List Op) (hv : C16.StartsValid ops) (raw : List Diag) (d : Diag) :
    d ∈ raw.filter (fun d => !(run (Op.addModule S :: ops)).contains d.code d.pos) ↔
      d ∈ (raw.filter (fun d => !(run ops).contains d.code d.pos)) ∧ matched S d.code = false := by
  have hv' : C16.StartsValid (Op.addModule S :: ops) := fun m hm => hv m (by simpa using hm)
  have hm : matched S d.code = true ↔ ∃ t ∈ hier d.code, t ∈ S := by simp [matched]
  simp only [List.mem_filter, Bool.not_eq_true', Bool.eq_false_iff, ne_eq, C16.contains_iff _ hv', C16.contains_iff _ hv,
    exclude_module, hm, not_or]
  exact ⟨fun ⟨hr, h1, h2⟩ => ⟨⟨hr, h2⟩, h1⟩, fun ⟨⟨hr, h2⟩, h1⟩ => ⟨hr, h1, h2⟩⟩

/-- detection-time filter (TONL, PKGO): excluding a code commutes with the once-per-file deduplication, because the
    deduplicated events of one walk all carry the same code (TONL01 resp. PKGO01): with `m` the exclusion test,
    running with `m ∨ sup` reports exactly the diagnostics of the run with `sup` that `m` does not match -/
theorem exclude_commutes_with_dedup {K : Type} [DecidableEq K] (m sup : Diag → Bool) (evs : List (Ev K)) (b : Bool)
    (hk : ∀ k d, Ev.keyed k d ∈ evs → m d = b) (s s' : DState K)
    (hout : s'.out = s.out.filter (fun d => !m d)) (hrep : b = false → s'.reported = s.reported) :
    (runEvs (fun d => m d || sup d) s' evs).out = ((runEvs sup s evs).out).filter (fun d => !m d) := by
  induction evs generalizing s s' with
  | nil => simpa [runEvs] using hout
  | cons ev rest ih =>
    have hk' : ∀ k d, Ev.keyed k d ∈ rest → m d = b := fun k d h => hk k d (List.mem_cons_of_mem _ h)
    apply ih hk'
    · cases ev with
      | plain d =>
        by_cases hm : m d = true
        · by_cases hs : sup d = true <;> simp [applyEv, hm, hs, hout]
        · simp only [Bool.not_eq_true] at hm
          by_cases hs : sup d = true <;> simp [applyEv, hm, hs, hout]
      | keyed k d =>
        have hmd := hk k d (by simp)
        cases b with
        | true =>
          by_cases hs : sup d = true
          · simp [applyEv, hs, hout]
          · by_cases hr : k ∈ s.reported <;> simp [applyEv, hmd, hs, hr, hout]
        | false =>
          have hre := hrep rfl
          by_cases hs : sup d = true
          · simp [applyEv, hs, hout]
          · by_cases hr : k ∈ s.reported <;> simp [applyEv, hmd, hs, hr, hre, hout]
    · intro hb
      cases ev with
      | plain d => simp [hrep hb]
      | keyed k d =>
        have hmd := hk k d (by simp)
        subst hb
        have hre := hrep rfl
        by_cases hs : sup d = true
        · simp [applyEv, hs, hre]
        · by_cases hr : k ∈ s.reported <;> simp [applyEv, hmd, hs, hr, hre]

/-- exclusion depends only on the code -/
theorem matched_code_only (S : List String) (d d' : Diag) (h : d.code = d'.code) : matched S d.code = matched S d'.code := by
  rw [h]

/-- the configuration's exclude-checks enter the ignore set as one project-wide entry, first -/
theorem ignoreOps_exclude (cfg : Cfg) (p : Pkg) (S : List String) (hS : S ≠ []) :
    ignoreOps { cfg with excludeChecks := S } p = Op.addModule S :: ignoreOps { cfg with excludeChecks := [] } p := by
  have h1 : filesToScan { cfg with excludeChecks := S } p = filesToScan { cfg with excludeChecks := [] } p := rfl
  unfold ignoreOps
  rw [h1]
  cases S with
  | nil => exact absurd rfl hS
  | cons a r => simp

/-! ## Non-vacuity over the regenerated table -/
example : matched ["IMM"] "IMM02" = true ∧ matched ["IMM01"] "IMM02" = false ∧ matched ["ALL"] "PKGO03" = true ∧
    matched ["IMM0", "ct", "junk"] "IMM01" = false ∧ matched ["CTOR", "TONL01"] "TONL01" = true := by decide +kernel

end GGV.Props.C08
