import GGV.Lemmas.Walk
/-!
# Re-positioning: the walks read positions only to hand them on

Inserting blank lines, gofmt and (for the tokens that stay) inserting comments change byte offsets and line numbers,
nothing else the walks look at. `mapPos φ` applies an arbitrary position map `φ` to every position a walk can report; the immutable and
constructor walks commute with it, and so does the report-time filter when the ignore sets agree modulo `φ`
(`IgnAgree`). The two walks that consult the ignore set while they run follow in `Props/C12.lean`, from their events.
-/
namespace GGV.Model.Prog
open GGV.Model

def Lhs.mapPos (φ : Int → Int) : Lhs → Lhs
  | .sel t n p => .sel t n (φ p)
  | .idx x p => .idx (x.mapPos φ) (φ p)
  | .star x p => .star (x.mapPos φ) (φ p)
  | .paren x => .paren (x.mapPos φ)
  | .ident n => .ident n
  | .other => .other

def VarSpec.mapPos (φ : Int → Int) (s : VarSpec) : VarSpec :=
  { s with names := s.names.map fun v => { v with pos := φ v.pos } }

def Kind.mapPos (φ : Int → Int) : Kind → Kind
  | .assign tok lhs => .assign tok (lhs.map (Lhs.mapPos φ))
  | .incDec x => .incDec (x.mapPos φ)
  | .genVar specs => .genVar (specs.map (VarSpec.mapPos φ))
  | k => k

/-- a re-layout: where every byte offset and every line number of the original file ends up -/
structure Relay where
  pos : Int → Int
  line : Int → Int

def Node.mapPos (r : Relay) (n : Node) : Node :=
  { n with kind := n.kind.mapPos r.pos, pos := r.pos n.pos, stop := r.pos n.stop,
           startLine := r.line n.startLine, endLine := r.line n.endLine }

def Decl.mapPos (r : Relay) (d : Decl) : Decl :=
  { d with pos := r.pos d.pos, stop := r.pos d.stop, endLine := r.line d.endLine, nodes := d.nodes.map (Node.mapPos r) }

def Comment.mapPos (r : Relay) (c : Comment) : Comment :=
  { c with pos := r.pos c.pos, stop := r.pos c.stop, line := r.line c.line, lineStart := r.pos c.lineStart }

/-- positions inside `Decl.info` (type-spec and field-name positions) are read only by the @implements pipeline and
    are left alone here -/
def File.mapPos (r : Relay) (f : File) : File :=
  { f with packagePos := r.pos f.packagePos, fileEnd := r.pos f.fileEnd,
           comments := f.comments.map (Comment.mapPos r), decls := f.decls.map (Decl.mapPos r) }

def Pkg.mapPos (r : Relay) (p : Pkg) : Pkg := { p with files := p.files.map (File.mapPos r) }

def Diag.mapPos (φ : Int → Int) (d : Diag) : Diag := { d with pos := φ d.pos }

@[simp] theorem Node.mapPos_size (r : Relay) (n : Node) : (n.mapPos r).size = n.size := rfl
@[simp] theorem Node.mapPos_pos (r : Relay) (n : Node) : (n.mapPos r).pos = r.pos n.pos := rfl
@[simp] theorem Node.mapPos_stop (r : Relay) (n : Node) : (n.mapPos r).stop = r.pos n.stop := rfl
@[simp] theorem Node.mapPos_startLine (r : Relay) (n : Node) : (n.mapPos r).startLine = r.line n.startLine := rfl
@[simp] theorem Node.mapPos_endLine (r : Relay) (n : Node) : (n.mapPos r).endLine = r.line n.endLine := rfl
@[simp] theorem Node.mapPos_kind (r : Relay) (n : Node) : (n.mapPos r).kind = n.kind.mapPos r.pos := rfl
@[simp] theorem Decl.mapPos_info (r : Relay) (d : Decl) : (d.mapPos r).info = d.info := rfl
@[simp] theorem Decl.mapPos_nodes (r : Relay) (d : Decl) : (d.mapPos r).nodes = d.nodes.map (Node.mapPos r) := rfl
@[simp] theorem File.mapPos_name (r : Relay) (f : File) : (f.mapPos r).name = f.name := rfl
@[simp] theorem File.mapPos_decls (r : Relay) (f : File) : (f.mapPos r).decls = f.decls.map (Decl.mapPos r) := rfl
@[simp] theorem Pkg.mapPos_path (r : Relay) (p : Pkg) : (p.mapPos r).path = p.path := rfl
@[simp] theorem Decl.mapPos_stop (ρ : Relay) (d : Decl) : (d.mapPos ρ).stop = ρ.pos d.stop := rfl
@[simp] theorem Decl.mapPos_pos (ρ : Relay) (d : Decl) : (d.mapPos ρ).pos = ρ.pos d.pos := rfl
@[simp] theorem Decl.mapPos_endLine (ρ : Relay) (d : Decl) : (d.mapPos ρ).endLine = ρ.line d.endLine := rfl
@[simp] theorem Comment.mapPos_pos (ρ : Relay) (c : Comment) : (c.mapPos ρ).pos = ρ.pos c.pos := rfl
@[simp] theorem Comment.mapPos_stop (ρ : Relay) (c : Comment) : (c.mapPos ρ).stop = ρ.pos c.stop := rfl
@[simp] theorem Comment.mapPos_line (ρ : Relay) (c : Comment) : (c.mapPos ρ).line = ρ.line c.line := rfl
@[simp] theorem Comment.mapPos_lineStart (ρ : Relay) (c : Comment) : (c.mapPos ρ).lineStart = ρ.pos c.lineStart := rfl
@[simp] theorem Comment.mapPos_text (ρ : Relay) (c : Comment) : (c.mapPos ρ).text = c.text := rfl
@[simp] theorem File.mapPos_packagePos (ρ : Relay) (f : File) : (f.mapPos ρ).packagePos = ρ.pos f.packagePos := rfl
@[simp] theorem File.mapPos_fileEnd (ρ : Relay) (f : File) : (f.mapPos ρ).fileEnd = ρ.pos f.fileEnd := rfl
@[simp] theorem File.mapPos_comments (ρ : Relay) (f : File) : (f.mapPos ρ).comments = f.comments.map (Comment.mapPos ρ) := rfl

theorem Node.mapPos_keepsShape (r : Relay) : KeepsShape (Node.mapPos r) where
  funcDecl n name := by rw [Node.mapPos_kind]; cases n.kind <;> simp [Kind.mapPos]
  size _ := rfl

theorem Lhs.unparen_mapPos (φ : Int → Int) (l : Lhs) : (l.mapPos φ).unparen = l.unparen.mapPos φ := by
  induction l with
  | paren x ih => simpa [Lhs.mapPos, Lhs.unparen] using ih
  | _ => rfl

theorem filesToScan_mapPos (ρ : Relay) (cfg : Cfg) (p : Pkg) :
    filesToScan cfg (p.mapPos ρ) = (filesToScan cfg p).map (File.mapPos ρ) :=
  filesToScan_map (File.mapPos ρ) (fun _ => rfl) cfg rfl

theorem readAnnotations_mapPos (ρ : Relay) (cfg : Cfg) (p : Pkg) :
    readAnnotations cfg (p.mapPos ρ) = readAnnotations cfg p := by
  unfold readAnnotations
  rw [filesToScan_mapPos, Pkg.mapPos_path, List.map_map]
  congr 1
  apply List.map_congr_left
  intro f _
  simp only [Function.comp, annOfFile, File.mapPos_decls, List.map_map]
  congr 2 <;> (apply List.map_congr_left; intro d _; simp [Function.comp, annOfDeclTypes, annOfDeclFuncs])

theorem flatMap_decls_mapPos (ρ : Relay) (cfg : Cfg) (p : Pkg) (walk : Decl → List Diag)
    (h : ∀ d, walk (d.mapPos ρ) = (walk d).map (Diag.mapPos ρ.pos)) :
    ((filesToScan cfg (p.mapPos ρ)).flatMap fun f => f.decls.flatMap walk) =
      ((filesToScan cfg p).flatMap fun f => f.decls.flatMap walk).map (Diag.mapPos ρ.pos) := by
  rw [filesToScan_mapPos]
  exact flatMap_map_hom (File.mapPos ρ) _ _ _ (fun f => flatMap_map_hom _ _ _ _ h f.decls) _

theorem immRecvHit_mapPos (φ : Int → Int) (c : WalkCtx) (fn : Name) (recv : Option RecvCtx) (x : Lhs) :
    immRecvHit c fn recv (x.mapPos φ) = immRecvHit c fn recv x := by
  cases recv <;> cases x <;> rfl

theorem immAssignLhs_mapPos (φ : Int → Int) (c : WalkCtx) (fn : Name) (recv : Option RecvCtx) (l : Lhs) :
    immAssignLhs c fn recv (l.mapPos φ) = (immAssignLhs c fn recv l).map (Diag.mapPos φ) := by
  unfold immAssignLhs
  rw [Lhs.unparen_mapPos]
  cases l.unparen with
  | sel t n p => simp only [Lhs.mapPos]; split <;> rfl
  | idx x p =>
    simp only [Lhs.mapPos, Lhs.unparen_mapPos]
    cases x.unparen with
    | sel t n q => simp only [Lhs.mapPos]; split <;> rfl
    | _ => rfl
  | star x p => simp only [Lhs.mapPos, immRecvHit_mapPos]; split <;> rfl
  | _ => rfl

theorem immCompoundLhs_mapPos (φ : Int → Int) (c : WalkCtx) (fn : Name) (l : Lhs) :
    immCompoundLhs c fn (l.mapPos φ) = (immCompoundLhs c fn l).map (Diag.mapPos φ) := by
  unfold immCompoundLhs
  rw [Lhs.unparen_mapPos]
  cases l.unparen with
  | sel t n p => simp only [Lhs.mapPos]; split <;> rfl
  | _ => rfl

theorem immIncDec_mapPos (φ : Int → Int) (c : WalkCtx) (fn : Name) (recv : Option RecvCtx) (np : Int) (x : Lhs) :
    immIncDec c fn recv (φ np) (x.mapPos φ) = (immIncDec c fn recv np x).map (Diag.mapPos φ) := by
  unfold immIncDec
  rw [Lhs.unparen_mapPos]
  cases x.unparen with
  | sel t n p => simp only [Lhs.mapPos]; split <;> rfl
  | star y p => simp only [Lhs.mapPos, immRecvHit_mapPos]; split <;> rfl
  | _ => rfl

theorem immNode_mapPos (ρ : Relay) (c : WalkCtx) (fn : Name) (recv : Option RecvCtx) (n : Node) :
    immNode c fn recv (n.mapPos ρ) = (immNode c fn recv n).map (Diag.mapPos ρ.pos) := by
  unfold immNode
  rw [Node.mapPos_kind]
  cases n.kind with
  | assign tok lhs =>
    simp only [Kind.mapPos]
    split <;> simp only [List.flatMap_map, List.map_flatMap, immAssignLhs_mapPos, immCompoundLhs_mapPos]
  | incDec x => exact immIncDec_mapPos ρ.pos c fn recv n.pos x
  | _ => rfl

theorem immDecl_mapPos (ρ : Relay) (c : WalkCtx) (d : Decl) :
    immDecl c (d.mapPos ρ) = (immDecl c d).map (Diag.mapPos ρ.pos) := by
  simp only [immDecl, immWalk_eq]
  exact resetWalk_map _ _ _ (Node.mapPos_keepsShape ρ) _ (fun s n => immNode_mapPos ρ c s.1 s.2 n) _ _

theorem checkImmutable_mapPos (ρ : Relay) (cfg : Cfg) (c : WalkCtx) (p : Pkg) :
    checkImmutable cfg c (p.mapPos ρ) = (checkImmutable cfg c p).map (Diag.mapPos ρ.pos) := by
  unfold checkImmutable
  split
  · rfl
  · exact flatMap_decls_mapPos ρ cfg p _ (immDecl_mapPos ρ c)

theorem ctorVarSpec_mapPos (φ : Int → Int) (c : WalkCtx) (fn : Name) (s : VarSpec) :
    ctorVarSpec c fn (s.mapPos φ) = (ctorVarSpec c fn s).map (Diag.mapPos φ) := by
  unfold ctorVarSpec VarSpec.mapPos
  split
  · rfl
  · refine flatMap_map_hom _ _ _ _ (fun v => ?_) _
    split
    · rfl
    · split <;> rfl

theorem ctorNode_mapPos (ρ : Relay) (c : WalkCtx) (fn : Name) (n : Node) :
    ctorNode c fn (n.mapPos ρ) = (ctorNode c fn n).map (Diag.mapPos ρ.pos) := by
  unfold ctorNode
  rw [Node.mapPos_kind]
  cases n.kind with
  | compLit ty => simp only [Kind.mapPos]; split <;> rfl
  | call callee nargs arg0 =>
    cases callee with
    | ident name obj => simp only [Kind.mapPos]; split <;> rfl
    | _ => rfl
  | genVar specs => simp only [Kind.mapPos, List.flatMap_map, List.map_flatMap, ctorVarSpec_mapPos]
  | _ => rfl

theorem ctorDecl_mapPos (ρ : Relay) (c : WalkCtx) (d : Decl) :
    ctorDecl c (d.mapPos ρ) = (ctorDecl c d).map (Diag.mapPos ρ.pos) := by
  simp only [ctorDecl, ctorWalk_eq]
  exact resetWalk_map _ _ _ (Node.mapPos_keepsShape ρ) _ (ctorNode_mapPos ρ c) _ _

theorem checkConstructor_mapPos (ρ : Relay) (cfg : Cfg) (c : WalkCtx) (p : Pkg) :
    checkConstructor cfg c (p.mapPos ρ) = (checkConstructor cfg c p).map (Diag.mapPos ρ.pos) := by
  unfold checkConstructor
  split
  · rfl
  · exact flatMap_decls_mapPos ρ cfg p _ (ctorDecl_mapPos ρ c)

/-- the two ignore sets give the same answers at corresponding positions -/
def IgnAgree (φ : Int → Int) (ig ig' : ISet) : Prop := ∀ code pos, ig'.contains code (φ pos) = ig.contains code pos

/-- the report-time filter of the immutable / constructor checkers -/
theorem report_mapPos (ρ : Relay) (ig ig' : ISet) (h : IgnAgree ρ.pos ig ig') (ds : List Diag) :
    (ds.map (Diag.mapPos ρ.pos)).filter (fun d => !ig'.contains d.code d.pos) =
      (ds.filter (fun d => !ig.contains d.code d.pos)).map (Diag.mapPos ρ.pos) := by
  rw [List.filter_map]
  exact congrArg (List.map _ <| List.filter · ds) (funext fun d => congrArg not (h d.code d.pos))

end GGV.Model.Prog
