import GGV.Model.Grammar
/-! Helper lemmas for C15 / C09: blanks, prefixes, infixes, identifier spans. -/
namespace GGV.Model.Grammar
open GGV.Model

def AllWs (w : Bytes) : Prop := ∀ b ∈ w, isWs b = true

theorem dropWs_eq (s : Bytes) : dropWs s = s.dropWhile isWs := by
  induction s with
  | nil => rfl
  | cons b r ih => rw [dropWs, ih, List.dropWhile_cons]

theorem spanP_eq (p : UInt8 → Bool) (s : Bytes) : spanP p s = (s.takeWhile p, s.dropWhile p) := by
  induction s with
  | nil => rfl
  | cons b r ih => cases h : p b <;> simp [spanP, ih, h]

theorem dropWs_append_of_ws {w s : Bytes} (hw : AllWs w) : dropWs (w ++ s) = dropWs s := by
  rw [dropWs_eq, dropWs_eq, List.dropWhile_append_of_pos hw]

theorem dropWs_of_nonws_head {b : UInt8} {r : Bytes} (h : isWs b = false) : dropWs (b :: r) = b :: r := by
  simp [dropWs, h]

theorem dropWs_spec (s : Bytes) : ∃ w, AllWs w ∧ s = w ++ dropWs s ∧
    (∀ b r, dropWs s = b :: r → isWs b = false) := by
  refine ⟨s.takeWhile isWs, List.all_eq_true.1 List.all_takeWhile, ?_, fun b r h => ?_⟩
  · rw [dropWs_eq, List.takeWhile_append_dropWhile]
  · have := List.head?_dropWhile_not isWs s
    rwa [← dropWs_eq, h] at this

theorem dropWs_spec_cons {b : UInt8} (r : Bytes) (hb : isWs b = true) :
    ∃ w, w ≠ [] ∧ AllWs w ∧ b :: r = w ++ dropWs (b :: r) := by
  obtain ⟨w, hw, e, _⟩ := dropWs_spec r
  exact ⟨b :: w, List.cons_ne_nil _ _, List.forall_mem_cons.2 ⟨hb, hw⟩, by rw [dropWs, if_pos hb, List.cons_append, ← e]⟩

theorem mem_dropWs {s : Bytes} {x : UInt8} (h : x ∈ dropWs s) : x ∈ s :=
  List.dropWhile_subset isWs (dropWs_eq s ▸ h)

theorem stripPrefix_eq_some {pre s t : Bytes} : stripPrefix pre s = some t ↔ s = pre ++ t := by
  induction pre generalizing s with
  | nil => simp [stripPrefix]
  | cons a ps ih =>
    cases s with
    | nil => simp [stripPrefix]
    | cons b s =>
      by_cases h : a = b
      · subst h; simp [stripPrefix, ih]
      · simp only [stripPrefix, h, if_false, List.cons_append, List.cons.injEq, false_iff, reduceCtorEq]
        exact fun e => h e.1.symm

/-- a keyword: starts with a non-blank byte (all seven start with `@`) -/
def IsKw (kw : Bytes) : Prop := ∃ k ks, kw = k :: ks ∧ isWs k = false

theorem isKw_slashes : IsKw slashes := ⟨47, [47], rfl, by decide⟩

/-- `\s*P` at the head, for a `P` that does not start with a blank -/
theorem stripPrefix_dropWs {pre s t : Bytes} (hp : IsKw pre) :
    stripPrefix pre (dropWs s) = some t ↔ ∃ w, AllWs w ∧ s = w ++ (pre ++ t) := by
  rw [stripPrefix_eq_some]
  constructor
  · intro h
    obtain ⟨w, hw, e, _⟩ := dropWs_spec s
    exact ⟨w, hw, h ▸ e⟩
  · rintro ⟨w, hw, rfl⟩
    obtain ⟨k, ks, rfl, hk⟩ := hp
    rw [dropWs_append_of_ws hw]
    exact dropWs_of_nonws_head hk

theorem lead_iff {kw line t : Bytes} (hkw : IsKw kw) :
    lead kw line = some t ↔
      ∃ w1 w2, AllWs w1 ∧ AllWs w2 ∧ line = w1 ++ slashes ++ w2 ++ kw ++ t := by
  unfold lead
  constructor
  · intro h
    split at h
    · cases h
    · next r hr =>
      obtain ⟨w1, h1, rfl⟩ := (stripPrefix_dropWs isKw_slashes).1 hr
      obtain ⟨w2, h2, rfl⟩ := (stripPrefix_dropWs hkw).1 h
      exact ⟨w1, w2, h1, h2, by rw [List.append_assoc, List.append_assoc, List.append_assoc]⟩
  · rintro ⟨w1, w2, h1, h2, rfl⟩
    rw [List.append_assoc, List.append_assoc, List.append_assoc,
      (stripPrefix_dropWs isKw_slashes).2 ⟨w1, h1, rfl⟩]
    exact (stripPrefix_dropWs hkw).2 ⟨w2, h2, rfl⟩

/-- `ascii` of a literal without evaluating the string. A literal unifies with `String.ofList _` (`rw` finds it),
    whereas evaluating `String.toList` on a literal makes the kernel encode and decode UTF-8, ≈ 20k heartbeats a
    character: the examples rewrite their input line with this before `decide`. -/
theorem ascii_ofList (l : List Char) : ascii (String.ofList l) = l.map fun c => UInt8.ofNat c.toNat := by
  rw [ascii, String.toList_ofList]

theorem isKw_ascii (cs : List Char) : IsKw (ascii (String.ofList ('@' :: cs))) :=
  ⟨64, _, ascii_ofList _, by decide⟩

/-- documented tail: nothing, or a run of blanks followed by text without a line feed -/
def TailOK (t : Bytes) : Prop :=
  t = [] ∨ ∃ w r, w ≠ [] ∧ AllWs w ∧ t = w ++ r ∧ (10 : UInt8) ∉ r

theorem tailOk_head {t : Bytes} (h : tailOk t = true) (b : UInt8) (r : Bytes) (e : t = b :: r) : isWs b = true := by
  subst e; exact (Bool.and_eq_true _ _ ▸ h).1

theorem tailOk_iff {t : Bytes} : tailOk t = true ↔ TailOK t := by
  cases t with
  | nil => exact ⟨fun _ => Or.inl rfl, fun _ => rfl⟩
  | cons b r =>
    -- the instance is given because the search for `LawfulBEq UInt8` is slow
    rw [tailOk, Bool.and_eq_true, Bool.not_eq_true', @List.contains_eq_mem _ _ instLawfulBEq, decide_eq_false_iff_not]
    constructor
    · rintro ⟨hb, hn⟩
      obtain ⟨w, hne, hw, e⟩ := dropWs_spec_cons r hb
      exact Or.inr ⟨w, _, hne, hw, e, hn⟩
    · rintro (h | ⟨w, r', hne, hw, e, hn⟩)
      · cases h
      · rw [e, dropWs_append_of_ws hw]
        obtain ⟨c, w', rfl⟩ := List.exists_cons_of_ne_nil hne
        exact ⟨(List.cons.inj e).1 ▸ hw c List.mem_cons_self, fun h => hn (mem_dropWs h)⟩

theorem recogniseBare_eq_true {kw line : Bytes} :
    recogniseBare kw line = true ↔ ∃ t, lead kw line = some t ∧ tailOk t = true := by
  unfold recogniseBare; split <;> simp [*]

theorem isInfix_iff {pre s : Bytes} : isInfix pre s = true ↔ pre <:+: s := by
  induction s with
  | nil => simp [isInfix]
  | cons c r ih =>
    simp only [isInfix, Bool.or_eq_true, ih, List.infix_cons_iff, @List.isPrefixOf_iff_prefix _ _ instLawfulBEq]

/-- identifier of class `k`: non-empty, first byte in `start`, the others in `rest` -/
def ValidId (k : IdClass) (id : Bytes) : Prop :=
  ∃ b r, id = b :: r ∧ k.start b = true ∧ ∀ c ∈ r, k.rest c = true

theorem spanP_stop {p : UInt8 → Bool} {cs t : Bytes} (hcs : ∀ c ∈ cs, p c = true)
    (ht : ∀ b r, t = b :: r → p b = false) : spanP p (cs ++ t) = (cs, t) := by
  rw [spanP_eq, List.takeWhile_append_of_pos hcs, List.dropWhile_append_of_pos hcs]
  cases t with
  | nil => simp
  | cons b r => simp [ht b r rfl]

theorem parseId_some {k : IdClass} {s id rest : Bytes} (h : parseId k s = some (id, rest)) :
    s = id ++ rest ∧ ValidId k id := by
  cases s with
  | nil => simp [parseId] at h
  | cons b r =>
    rw [parseId, spanP_eq] at h
    split at h
    · next hb =>
      obtain ⟨rfl, rfl⟩ := Prod.mk.inj (Option.some.inj h)
      exact ⟨by simp, b, _, rfl, hb, List.all_eq_true.1 List.all_takeWhile⟩
    · simp at h

end GGV.Model.Grammar
