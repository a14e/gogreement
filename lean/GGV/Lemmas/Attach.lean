import GGV.Model.Checkers
import GGV.Lemmas.Grammar
/-! Where annotations come from: order-free membership characterisations of `readAnnotations`,
    and the emptiness lemma behind C09. -/
namespace GGV.Model.Prog
open GGV.Model GGV.Model.Grammar

theorem ann_append_def (a b : Annotations) : a ++ b = Annotations.append a b := rfl

theorem concatAnn_eq (l : List Annotations) :
    concatAnn l = ⟨l.flatMap (·.immutable), l.flatMap (·.constructors), l.flatMap (·.testonly), l.flatMap (·.mutable),
      l.flatMap (·.packageonly)⟩ := by
  have h : ∀ acc : Annotations, l.foldl (· ++ ·) acc =
      ⟨acc.immutable ++ l.flatMap (·.immutable), acc.constructors ++ l.flatMap (·.constructors),
        acc.testonly ++ l.flatMap (·.testonly), acc.mutable ++ l.flatMap (·.mutable),
        acc.packageonly ++ l.flatMap (·.packageonly)⟩ := by
    induction l with
    | nil => intro acc; simp only [List.foldl_nil, List.flatMap_nil, List.append_nil]
    | cons a r ih =>
      intro acc
      rw [List.foldl_cons, ih]
      simp only [ann_append_def, Annotations.append, List.flatMap_cons, List.append_assoc]
  exact h {}

theorem concatAnn_nil : concatAnn [] = {} := rfl

theorem concatAnn_cons (a : Annotations) (l : List Annotations) : concatAnn (a :: l) = a ++ concatAnn l := by
  simp only [concatAnn_eq]; rfl

theorem concatAnn_append (l₁ l₂ : List Annotations) : concatAnn (l₁ ++ l₂) = concatAnn l₁ ++ concatAnn l₂ := by
  simp only [concatAnn_eq, List.flatMap_append]; rfl

theorem mem_concat_immutable (l : List Annotations) (x : Name) :
    x ∈ (concatAnn l).immutable ↔ ∃ a ∈ l, x ∈ a.immutable := by
  rw [concatAnn_eq]; exact List.mem_flatMap

theorem mem_concat_constructors (l : List Annotations) (x : Name × List Name) :
    x ∈ (concatAnn l).constructors ↔ ∃ a ∈ l, x ∈ a.constructors := by
  rw [concatAnn_eq]; exact List.mem_flatMap

theorem mem_concat_testonly (l : List Annotations) (x : TestOnlyAnn) :
    x ∈ (concatAnn l).testonly ↔ ∃ a ∈ l, x ∈ a.testonly := by
  rw [concatAnn_eq]; exact List.mem_flatMap

theorem mem_concat_mutable (l : List Annotations) (x : Name × Name) :
    x ∈ (concatAnn l).mutable ↔ ∃ a ∈ l, x ∈ a.mutable := by
  rw [concatAnn_eq]; exact List.mem_flatMap

theorem mem_concat_packageonly (l : List Annotations) (x : PkgOnlyAnn) :
    x ∈ (concatAnn l).packageonly ↔ ∃ a ∈ l, x ∈ a.packageonly := by
  rw [concatAnn_eq]; exact List.mem_flatMap

theorem concatAnn_map_empty {α} (f : α → Annotations) (l : List α) (h : ∀ x ∈ l, f x = {}) :
    concatAnn (l.map f) = {} := by
  induction l with
  | nil => rfl
  | cons a r ih =>
    rw [List.map_cons, concatAnn_cons, h a List.mem_cons_self, ih fun x hx => h x (List.mem_cons_of_mem _ hx)]
    rfl

/-- the line begins (after `//` and blanks) with one of the six annotation keywords -/
def startsWithKeyword (text : Bytes) : Prop :=
  ∃ kw ∈ [kwImplements, kwConstructor, kwImmutable, kwTestonly, kwMutable, kwPackageonly], ∃ t, lead kw text = some t

theorem startsWithKeyword_iff (text : Bytes) : startsWithKeyword text ↔
    [kwImplements, kwConstructor, kwImmutable, kwTestonly, kwMutable, kwPackageonly].any
      (fun kw => (lead kw text).isSome) = true := by
  simp only [startsWithKeyword, List.any_eq_true, Option.isSome_iff_exists]

theorem lead_inert {text : Bytes} (h : ¬ startsWithKeyword text) :
    ∀ kw ∈ [kwImplements, kwConstructor, kwImmutable, kwTestonly, kwMutable, kwPackageonly], lead kw text = none :=
  fun kw hkw => Option.eq_none_iff_forall_ne_some.2 fun t ht => h ⟨kw, hkw, t, ht⟩

theorem annOfTypeLine_inert (pkgPath : Name) (ts : TypeSpecInfo) (text : Bytes) (h : ¬ startsWithKeyword text) :
    annOfTypeLine pkgPath ts text = {} := by
  have hl := lead_inert h
  simp only [List.forall_mem_cons] at hl
  simp [annOfTypeLine, parseConstructor, parsePackageOnly, recogniseBare, recogniseList, hl]

theorem annOfFuncLine_inert (pkgPath name : Name) (kind : AKind) (recv : Name) (text : Bytes) (h : ¬ startsWithKeyword text) :
    annOfFuncLine pkgPath name kind recv text = {} := by
  have hl := lead_inert h
  simp only [List.forall_mem_cons] at hl
  simp [annOfFuncLine, parsePackageOnly, recogniseBare, recogniseList, hl]

/-- the doc lines `ReadAllAnnotations` looks at in a declaration: the doc of the declaration, of its type specs
    (for type declarations) and nothing else -/
def Decl.docLines (d : Decl) : List Bytes :=
  match d.info with
  | .func _ doc _ => doc.getD []
  | .gen _ genDoc specs => genDoc.getD [] ++ specs.flatMap (fun ts => ts.doc.getD [])

theorem annOfDeclTypes_inert (pkgPath : Name) (d : Decl) (h : ∀ t ∈ d.docLines, ¬ startsWithKeyword t) :
    annOfDeclTypes pkgPath d = {} := by
  unfold annOfDeclTypes
  cases hi : d.info with
  | func n doc r => rfl
  | gen tok genDoc specs =>
    simp only
    split
    · rfl
    · refine concatAnn_map_empty _ _ fun ts hts => ?_
      cases hsd : specDoc genDoc ts with
      | none => rfl
      | some lines =>
        refine concatAnn_map_empty _ _ fun text htext => annOfTypeLine_inert _ _ _ (h _ ?_)
        simp only [Decl.docLines, hi, List.mem_append, List.mem_flatMap]
        unfold specDoc at hsd
        split at hsd
        · next l hd => exact .inr ⟨ts, hts, by rw [hd, hsd]; exact htext⟩
        · exact .inl (by rw [hsd]; exact htext)

theorem annOfDeclFuncs_inert (pkgPath : Name) (d : Decl) (h : ∀ t ∈ d.docLines, ¬ startsWithKeyword t) :
    annOfDeclFuncs pkgPath d = {} := by
  unfold annOfDeclFuncs
  cases hi : d.info with
  | gen tok genDoc specs => rfl
  | func n doc r =>
    cases doc with
    | none => rfl
    | some lines =>
      refine concatAnn_map_empty _ _ fun text htext => annOfFuncLine_inert _ _ _ _ _ (h _ ?_)
      simp only [Decl.docLines, hi]; exact htext

/-- **no doc line of a scanned top-level declaration begins with a keyword ⇒ no annotations** -/
theorem readAnnotations_empty (cfg : Cfg) (p : Pkg)
    (h : ∀ f ∈ filesToScan cfg p, ∀ d ∈ f.decls, ∀ t ∈ d.docLines, ¬ startsWithKeyword t) :
    readAnnotations cfg p = {} := by
  refine concatAnn_map_empty _ _ fun f hf => ?_
  rw [annOfFile, concatAnn_map_empty _ _ fun d hd => annOfDeclTypes_inert p.path d (h f hf d hd),
    concatAnn_map_empty _ _ fun d hd => annOfDeclFuncs_inert p.path d (h f hf d hd)]
  rfl

end GGV.Model.Prog
