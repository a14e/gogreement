import GGV.Lemmas.Reposition
/-!
# Re-positioning and the @ignore reader

For a re-layout whose position map is strictly increasing and fixes the "no position" sentinel 0, and whose line
map is injective, the markers read from the re-laid-out file are the images of the markers read from the original.
-/
namespace GGV.Model.Prog
open GGV.Model

/-- blank lines, comments, re-formatting: tokens keep their order, lines stay distinct -/
structure Relay.Monotone (ρ : Relay) : Prop where
  strict : ∀ a b : Int, a < b → ρ.pos a < ρ.pos b
  zero : ρ.pos 0 = 0
  lineInj : ∀ a b : Int, ρ.line a = ρ.line b → a = b

theorem Relay.Monotone.lt_iff {ρ : Relay} (h : ρ.Monotone) (a b : Int) : ρ.pos a < ρ.pos b ↔ a < b := by
  refine ⟨fun hlt => ?_, h.strict a b⟩
  rcases Int.lt_trichotomy a b with h1 | h1 | h1
  · exact h1
  · subst h1; omega
  · have := h.strict b a h1; omega

theorem Relay.Monotone.le_iff {ρ : Relay} (h : ρ.Monotone) (a b : Int) : ρ.pos a ≤ ρ.pos b ↔ a ≤ b := by
  rw [← Int.not_lt, ← Int.not_lt, h.lt_iff]

theorem Relay.Monotone.eq_zero_iff {ρ : Relay} (h : ρ.Monotone) (a : Int) : ρ.pos a = 0 ↔ a = 0 := by
  rw [← h.zero, Int.le_antisymm_iff, h.le_iff, h.le_iff, ← Int.le_antisymm_iff, h.zero]

theorem Relay.Monotone.zero_beq {ρ : Relay} (h : ρ.Monotone) (a : Int) : (ρ.pos a == 0) = (a == 0) := by
  rw [Bool.eq_iff_iff, beq_iff_eq, beq_iff_eq, h.eq_zero_iff]

theorem Relay.Monotone.line_beq {ρ : Relay} (h : ρ.Monotone) (a b : Int) : (ρ.line a == ρ.line b) = (a == b) := by
  rw [Bool.eq_iff_iff, beq_iff_eq, beq_iff_eq]
  exact ⟨h.lineInj a b, congrArg ρ.line⟩

theorem Relay.Monotone.next_cond {ρ : Relay} (h : ρ.Monotone) (a s : Int) :
    ((ρ.pos s == 0) || decide (ρ.pos a < ρ.pos s)) = ((s == 0) || decide (a < s)) := by
  rw [h.zero_beq, decide_eq_decide.2 (h.lt_iff a s)]

theorem Relay.Monotone.one_le {ρ : Relay} (h : ρ.Monotone) {a : Int} (ha : 1 ≤ a) : 1 ≤ ρ.pos a := by
  have := h.strict 0 a (by omega)
  rw [h.zero] at this
  omega

theorem declIndex_mapPos (ρ : Relay) (h : ρ.Monotone) (ds : List Decl) (pos : Int) :
    declIndex (ds.map (Decl.mapPos ρ)) (ρ.pos pos) = declIndex ds pos :=
  declIndex_map _ ds pos _ fun d => h.lt_iff pos d.stop

theorem inlineWalk_mapPos (ρ : Relay) (h : ρ.Monotone) (cpos cline : Int) (ns : List Node) (found : Bool) (k : Nat) :
    inlineWalk (ρ.pos cpos) (ρ.line cline) found k (ns.map (Node.mapPos ρ)) = inlineWalk cpos cline found k ns := by
  rw [inlineWalk_eq, inlineWalk_eq]
  refine pruneWalk_map _ _ (Node.mapPos ρ) id (fun found n => ?_) found k ns
  simp only [inlineStep, Node.mapPos_pos, Node.mapPos_startLine, Node.mapPos_endLine,
    h.le_iff, h.line_beq]
  rfl

theorem prevEndsOnLine_mapPos (ρ : Relay) (h : ρ.Monotone) (f : File) (cm : Comment) :
    prevEndsOnLine (f.mapPos ρ) (cm.mapPos ρ) = prevEndsOnLine f cm := by
  unfold prevEndsOnLine
  simp only [File.mapPos_decls, Comment.mapPos_pos, declIndex_mapPos ρ h]
  cases declIndex f.decls cm.pos with
  | zero => rfl
  | succ i =>
    simp only [List.getElem?_map]
    cases f.decls[i]? with
    | none => rfl
    | some d => simp [h.line_beq]

def mapRange (φ : Int → Int) (r : Int × Int) : Int × Int := (φ r.1, φ r.2)

theorem findInline_mapPos (ρ : Relay) (h : ρ.Monotone) (f : File) (cm : Comment) :
    findInline (f.mapPos ρ) (cm.mapPos ρ) = (findInline f cm).map (mapRange ρ.pos) := by
  unfold findInline
  rw [prevEndsOnLine_mapPos ρ h]
  split
  · rfl
  · simp only [File.mapPos_decls, Comment.mapPos_pos, declIndex_mapPos ρ h, List.getElem?_map]
    cases f.decls[declIndex f.decls cm.pos]? with
    | none => rfl
    | some d =>
      simp only [Option.map_some, Decl.mapPos_pos, h.lt_iff, Decl.mapPos_nodes, Comment.mapPos_line,
        inlineWalk_mapPos ρ h]
      split
      · rfl
      · split <;> rfl

theorem nextWalk_mapPos (ρ : Relay) (h : ρ.Monotone) (cpos : Int) (ns : List Node) (st : Int × Int) (k : Nat) :
    nextWalk (ρ.pos cpos) (mapRange ρ.pos st) k (ns.map (Node.mapPos ρ)) = mapRange ρ.pos (nextWalk cpos st k ns) := by
  rw [nextWalk_eq, nextWalk_eq]
  refine pruneWalk_map _ _ (Node.mapPos ρ) (mapRange ρ.pos) (fun st n => ?_) st k ns
  dsimp only [nextStep, mapRange, Node.mapPos]
  rw [h.next_cond]
  simp only [h.le_iff]
  split <;> (try split) <;> rfl

theorem findNext_mapPos (ρ : Relay) (h : ρ.Monotone) (f : File) (cpos : Int) :
    findNext (f.mapPos ρ) (ρ.pos cpos) = ρ.pos (findNext f cpos) := by
  unfold findNext
  simp only [File.mapPos_decls, declIndex_mapPos ρ h, List.getElem?_map]
  cases f.decls[declIndex f.decls cpos]? with
  | none => exact h.zero.symm
  | some d =>
    simp only [Option.map_some, Decl.mapPos_pos, h.lt_iff, Decl.mapPos_nodes]
    split
    · rfl
    · have := nextWalk_mapPos ρ h cpos d.nodes (0, 0) 0
      simp only [mapRange, h.zero] at this
      rw [this]

theorem scopeOf_mapPos (ρ : Relay) (h : ρ.Monotone) (f : File) (cm : Comment) :
    scopeOf (f.mapPos ρ) (cm.mapPos ρ) = mapRange ρ.pos (scopeOf f cm) := by
  unfold scopeOf
  simp only [Comment.mapPos_pos, File.mapPos_packagePos, h.lt_iff, findInline_mapPos ρ h,
    findNext_mapPos ρ h]
  split
  · rfl
  · cases findInline f cm with
    | some r => rfl
    | none =>
      simp only [Option.map_none, h.zero_beq]
      split <;> rfl

def Marker.mapPos (φ : Int → Int) (m : Marker) : Marker := { m with start := φ m.start, stop := φ m.stop }

def Op.mapPos (φ : Int → Int) : Op → Op
  | .add m => .add (Marker.mapPos φ m)
  | .addModule cs => .addModule cs

theorem markerOf_mapPos (ρ : Relay) (h : ρ.Monotone) (f : File) (cm : Comment) :
    markerOf (f.mapPos ρ) (cm.mapPos ρ) = (markerOf f cm).map (Marker.mapPos ρ.pos) := by
  unfold markerOf
  simp only [Comment.mapPos_text, scopeOf_mapPos ρ h]
  split
  · rfl
  · cases Grammar.parseIgnore cm.text with
    | none => rfl
    | some codes => rfl

theorem ignoreOps_mapPos (ρ : Relay) (h : ρ.Monotone) (cfg : Cfg) (p : Pkg) :
    ignoreOps cfg (p.mapPos ρ) = (ignoreOps cfg p).map (Op.mapPos ρ.pos) := by
  unfold ignoreOps
  rw [filesToScan_mapPos, List.map_append]
  congr 1
  · split <;> rfl
  · simp only [List.flatMap_map, List.map_flatMap]
    congr 1; funext f
    simp only [File.mapPos_comments, List.filterMap_map, List.map_filterMap]
    congr 1; funext cm
    simp only [Function.comp, markerOf_mapPos ρ h]
    cases markerOf f cm <;> simp [Op.mapPos]

end GGV.Model.Prog
