import GGV.Lemmas.Walk
/-!
# Re-spelling: the analysis reads a type only through its alias-free normal form

`mapTy σ` rewrites every go/types type the extractor attached to a use site (operands of selectors, literals, `new`,
declared variables, fields / parameters, receivers). If `σ` only re-spells (`norm (σ t) = norm t`: local alias, alias
from a third package, alias of a pointer, pointer to an alias), every walk returns the same result.
-/
namespace GGV.Model.Prog
open GGV.Model

/-- alias-free normal form (what `types.Identical` compares, as far as aliases go) -/
def Ty.norm : Ty → Ty
  | .alias _ _ r => r.norm
  | .ptr e => .ptr e.norm
  | t => t

theorem Ty.norm_unalias (t : Ty) : t.norm.unalias = t.norm := by
  induction t with
  | alias p n r ih => exact ih
  | _ => rfl

theorem Ty.unalias_cases (t : Ty) :
    (∃ p n, t.unalias = .named p n ∧ t.norm = .named p n) ∨
    (∃ e, t.unalias = .ptr e ∧ t.norm = .ptr e.norm) ∨
    (t.unalias = .other ∧ t.norm = .other) := by
  induction t with
  | alias p n r ih => exact ih
  | named p n => exact Or.inl ⟨p, n, rfl, rfl⟩
  | ptr e _ => exact Or.inr (Or.inl ⟨e, rfl, rfl⟩)
  | other => exact Or.inr (Or.inr ⟨rfl, rfl⟩)

theorem typeInfo_norm' (t : Ty) : typeInfo (some t) = typeInfo (some t.norm) := by
  unfold typeInfo
  simp only
  rw [Ty.norm_unalias]
  rcases Ty.unalias_cases t with ⟨p, n, h1, h2⟩ | ⟨e, h1, h2⟩ | ⟨h1, h2⟩
  · rw [h1, h2]
  · rw [h1, h2]
    simp only
    rw [Ty.norm_unalias]
    rcases Ty.unalias_cases e with ⟨p, n, h3, h4⟩ | ⟨e', h3, h4⟩ | ⟨h3, h4⟩ <;> rw [h3, h4]
  · rw [h1, h2]

theorem varTypeInfo_norm' (t : Ty) : varTypeInfo (some t) = varTypeInfo (some t.norm) := by
  unfold varTypeInfo
  simp only
  rw [Ty.norm_unalias]
  rcases Ty.unalias_cases t with ⟨p, n, h1, h2⟩ | ⟨e, h1, h2⟩ | ⟨h1, h2⟩ <;> rw [h1, h2]

theorem typeName_norm' (t : Ty) : typeName t = typeName t.norm := by
  unfold typeName
  rw [Ty.norm_unalias]
  rcases Ty.unalias_cases t with ⟨p, n, h1, h2⟩ | ⟨e, h1, h2⟩ | ⟨h1, h2⟩
  · rw [h1, h2]
  · rw [h1, h2]
    simp only
    rw [Ty.norm_unalias]
    rcases Ty.unalias_cases e with ⟨p, n, h3, h4⟩ | ⟨e', h3, h4⟩ | ⟨h3, h4⟩ <;> rw [h3, h4]
  · rw [h1, h2]

/-- `σ` only re-spells types -/
def Respells (σ : Ty → Ty) : Prop := ∀ t, (σ t).norm = t.norm

section
variable (σ : Ty → Ty) (hσ : Respells σ)
include hσ

theorem typeInfo_map (t : Option Ty) : typeInfo (t.map σ) = typeInfo t := by
  cases t with
  | none => rfl
  | some t => simp only [Option.map_some]; rw [typeInfo_norm' (σ t), typeInfo_norm' t, hσ t]

theorem varTypeInfo_map (t : Option Ty) : varTypeInfo (t.map σ) = varTypeInfo t := by
  cases t with
  | none => rfl
  | some t => simp only [Option.map_some]; rw [varTypeInfo_norm' (σ t), varTypeInfo_norm' t, hσ t]

theorem typeName_map (t : Ty) : typeName (σ t) = typeName t := by
  rw [typeName_norm' (σ t), typeName_norm' t, hσ t]
end

def Lhs.mapTy (σ : Ty → Ty) : Lhs → Lhs
  | .sel t n p => .sel (t.map σ) n p
  | .idx x p => .idx (x.mapTy σ) p
  | .star x p => .star (x.mapTy σ) p
  | .paren x => .paren (x.mapTy σ)
  | .ident n => .ident n
  | .other => .other

def Obj.mapTy (σ : Ty → Ty) : Obj → Obj
  | .method p n r => .method p n (σ r)
  | o => o

def Callee.mapTy (σ : Ty → Ty) : Callee → Callee
  | .sel pk n xTy => .sel pk n (xTy.map σ)
  | c => c

def VarSpec.mapTy (σ : Ty → Ty) (s : VarSpec) : VarSpec :=
  { s with names := s.names.map fun v => { v with ty := v.ty.map σ } }

def Kind.mapTy (σ : Ty → Ty) : Kind → Kind
  | .assign tok lhs => .assign tok (lhs.map (Lhs.mapTy σ))
  | .incDec x => .incDec (x.mapTy σ)
  | .compLit ty => .compLit (ty.map σ)
  | .call c n a0 => .call (c.mapTy σ) n (a0.map σ)
  | .genVar specs => .genVar (specs.map (VarSpec.mapTy σ))
  | .valueSpec ty => .valueSpec (ty.map σ)
  | .field ty => .field (ty.map σ)
  | .selector o => .selector (o.mapTy σ)
  | k => k

def Node.mapTy (σ : Ty → Ty) (n : Node) : Node := { n with kind := n.kind.mapTy σ }

def DeclInfo.mapTy (σ : Ty → Ty) : DeclInfo → DeclInfo
  | .func name doc (some r) => .func name doc (some { r with ty := r.ty.map σ })
  | i => i

def Decl.mapTy (σ : Ty → Ty) (d : Decl) : Decl := { d with info := d.info.mapTy σ, nodes := d.nodes.map (Node.mapTy σ) }
def File.mapTy (σ : Ty → Ty) (f : File) : File := { f with decls := f.decls.map (Decl.mapTy σ) }
def Pkg.mapTy (σ : Ty → Ty) (p : Pkg) : Pkg := { p with files := p.files.map (File.mapTy σ) }

@[simp] theorem Node.mapTy_kind (σ : Ty → Ty) (n : Node) : (n.mapTy σ).kind = n.kind.mapTy σ := rfl
@[simp] theorem Node.mapTy_pos (σ : Ty → Ty) (n : Node) : (n.mapTy σ).pos = n.pos := rfl
@[simp] theorem Node.mapTy_stop (σ : Ty → Ty) (n : Node) : (n.mapTy σ).stop = n.stop := rfl
@[simp] theorem Node.mapTy_size (σ : Ty → Ty) (n : Node) : (n.mapTy σ).size = n.size := rfl
@[simp] theorem Node.mapTy_startLine (σ : Ty → Ty) (n : Node) : (n.mapTy σ).startLine = n.startLine := rfl
@[simp] theorem Node.mapTy_endLine (σ : Ty → Ty) (n : Node) : (n.mapTy σ).endLine = n.endLine := rfl
@[simp] theorem Decl.mapTy_nodes (σ : Ty → Ty) (d : Decl) : (d.mapTy σ).nodes = d.nodes.map (Node.mapTy σ) := rfl
@[simp] theorem Decl.mapTy_info (σ : Ty → Ty) (d : Decl) : (d.mapTy σ).info = d.info.mapTy σ := rfl
@[simp] theorem Decl.mapTy_pos (σ : Ty → Ty) (d : Decl) : (d.mapTy σ).pos = d.pos := rfl
@[simp] theorem Decl.mapTy_stop (σ : Ty → Ty) (d : Decl) : (d.mapTy σ).stop = d.stop := rfl
@[simp] theorem Decl.mapTy_endLine (σ : Ty → Ty) (d : Decl) : (d.mapTy σ).endLine = d.endLine := rfl
@[simp] theorem File.mapTy_name (σ : Ty → Ty) (f : File) : (f.mapTy σ).name = f.name := rfl
@[simp] theorem File.mapTy_decls (σ : Ty → Ty) (f : File) : (f.mapTy σ).decls = f.decls.map (Decl.mapTy σ) := rfl
@[simp] theorem File.mapTy_comments (σ : Ty → Ty) (f : File) : (f.mapTy σ).comments = f.comments := rfl
@[simp] theorem File.mapTy_packagePos (σ : Ty → Ty) (f : File) : (f.mapTy σ).packagePos = f.packagePos := rfl
@[simp] theorem File.mapTy_fileEnd (σ : Ty → Ty) (f : File) : (f.mapTy σ).fileEnd = f.fileEnd := rfl
@[simp] theorem Pkg.mapTy_path (σ : Ty → Ty) (p : Pkg) : (p.mapTy σ).path = p.path := rfl
@[simp] theorem Pkg.mapTy_name (σ : Ty → Ty) (p : Pkg) : (p.mapTy σ).name = p.name := rfl

theorem kind_funcDecl_mapTy (σ : Ty → Ty) (k : Kind) (name : Name) : k.mapTy σ = .funcDecl name ↔ k = .funcDecl name := by
  cases k <;> simp [Kind.mapTy]

theorem Node.mapTy_keepsShape (σ : Ty → Ty) : KeepsShape (Node.mapTy σ) where
  funcDecl n name := kind_funcDecl_mapTy σ n.kind name
  size _ := rfl

theorem filesToScan_mapTy (σ : Ty → Ty) (cfg : Cfg) (p : Pkg) :
    filesToScan cfg (p.mapTy σ) = (filesToScan cfg p).map (File.mapTy σ) :=
  filesToScan_map (File.mapTy σ) (fun _ => rfl) cfg rfl

theorem Lhs.unparen_mapTy (σ : Ty → Ty) (l : Lhs) : (l.mapTy σ).unparen = l.unparen.mapTy σ := by
  induction l with
  | paren x ih => simpa [Lhs.mapTy, Lhs.unparen] using ih
  | _ => rfl

theorem immRecvHit_mapTy (σ : Ty → Ty) (c : WalkCtx) (fn : Name) (recv : Option RecvCtx) (x : Lhs) :
    immRecvHit c fn recv (x.mapTy σ) = immRecvHit c fn recv x := by
  cases recv <;> cases x <;> rfl

section
variable (σ : Ty → Ty) (hσ : Respells σ)
include hσ

omit hσ in
theorem flatMap_decls_mapTy (cfg : Cfg) (p : Pkg) (walk : Decl → List Diag) (h : ∀ d, walk (d.mapTy σ) = walk d) :
    ((filesToScan cfg (p.mapTy σ)).flatMap fun f => f.decls.flatMap walk) =
      (filesToScan cfg p).flatMap fun f => f.decls.flatMap walk := by
  simp only [filesToScan_mapTy, List.flatMap_map, File.mapTy_decls, h]

theorem immFieldHit_map (c : WalkCtx) (fn : Name) (t : Option Ty) (f : Name) :
    immFieldHit c fn (t.map σ) f = immFieldHit c fn t f := by
  unfold immFieldHit; rw [typeInfo_map σ hσ]

theorem immAssignLhs_mapTy (c : WalkCtx) (fn : Name) (recv : Option RecvCtx) (l : Lhs) :
    immAssignLhs c fn recv (l.mapTy σ) = immAssignLhs c fn recv l := by
  unfold immAssignLhs
  rw [Lhs.unparen_mapTy]
  cases l.unparen with
  | sel t n p => simp only [Lhs.mapTy, immFieldHit_map σ hσ]
  | idx x p =>
    simp only [Lhs.mapTy, Lhs.unparen_mapTy]
    cases x.unparen with
    | sel t n q => simp only [Lhs.mapTy, immFieldHit_map σ hσ]
    | _ => rfl
  | star x p => simp only [Lhs.mapTy, immRecvHit_mapTy]
  | _ => rfl

theorem immCompoundLhs_mapTy (c : WalkCtx) (fn : Name) (l : Lhs) :
    immCompoundLhs c fn (l.mapTy σ) = immCompoundLhs c fn l := by
  unfold immCompoundLhs
  rw [Lhs.unparen_mapTy]
  cases l.unparen with
  | sel t n p => simp only [Lhs.mapTy, immFieldHit_map σ hσ]
  | _ => rfl

theorem immIncDec_mapTy (c : WalkCtx) (fn : Name) (recv : Option RecvCtx) (np : Int) (x : Lhs) :
    immIncDec c fn recv np (x.mapTy σ) = immIncDec c fn recv np x := by
  unfold immIncDec
  rw [Lhs.unparen_mapTy]
  cases x.unparen with
  | sel t n p => simp only [Lhs.mapTy, immFieldHit_map σ hσ]
  | star y p => simp only [Lhs.mapTy, immRecvHit_mapTy]
  | _ => rfl

theorem immNode_mapTy (c : WalkCtx) (fn : Name) (recv : Option RecvCtx) (n : Node) :
    immNode c fn recv (n.mapTy σ) = immNode c fn recv n := by
  unfold immNode
  rw [Node.mapTy_kind]
  cases n.kind with
  | assign tok lhs =>
    simp only [Kind.mapTy, List.flatMap_map, immAssignLhs_mapTy σ hσ, immCompoundLhs_mapTy σ hσ]
  | incDec x => exact immIncDec_mapTy σ hσ c fn recv n.pos x
  | _ => rfl

theorem recvCtxOf_mapTy (r : Option RecvInfo) :
    recvCtxOf (r.map fun r => { r with ty := r.ty.map σ }) = recvCtxOf r := by
  cases r with
  | none => rfl
  | some r => simp only [Option.map_some, recvCtxOf, typeInfo_map σ hσ]

theorem declRecv_mapTy (d : Decl) : recvCtxOf (declRecv (d.mapTy σ)) = recvCtxOf (declRecv d) := by
  unfold declRecv
  rw [Decl.mapTy_info]
  cases d.info with
  | gen tok doc specs => rfl
  | func name doc recv =>
    cases recv with
    | none => rfl
    | some r => exact recvCtxOf_mapTy σ hσ (some r)

theorem immDecl_mapTy (c : WalkCtx) (d : Decl) : immDecl c (d.mapTy σ) = immDecl c d := by
  simp only [immDecl, immWalk_eq, declRecv_mapTy σ hσ]
  exact (resetWalk_map _ _ _ (Node.mapTy_keepsShape σ) id (fun s n => by rw [immNode_mapTy σ hσ, List.map_id]) _ _).trans
    (List.map_id _)

theorem checkImmutable_mapTy (cfg : Cfg) (c : WalkCtx) (p : Pkg) :
    checkImmutable cfg c (p.mapTy σ) = checkImmutable cfg c p := by
  unfold checkImmutable
  split
  · rfl
  · exact flatMap_decls_mapTy σ cfg p _ (immDecl_mapTy σ hσ c)

theorem ctorVarSpec_mapTy (c : WalkCtx) (fn : Name) (s : VarSpec) : ctorVarSpec c fn (s.mapTy σ) = ctorVarSpec c fn s := by
  unfold ctorVarSpec VarSpec.mapTy
  split
  · rfl
  · simp only [List.flatMap_map, varTypeInfo_map σ hσ]

theorem ctorNode_mapTy (c : WalkCtx) (fn : Name) (n : Node) : ctorNode c fn (n.mapTy σ) = ctorNode c fn n := by
  unfold ctorNode
  rw [Node.mapTy_kind, Node.mapTy_pos]
  cases n.kind with
  | compLit ty => simp only [Kind.mapTy, typeInfo_map σ hσ]
  | call callee nargs arg0 =>
    cases callee with
    | ident name obj => simp only [Kind.mapTy, Callee.mapTy, typeInfo_map σ hσ]
    | _ => rfl
  | genVar specs => simp only [Kind.mapTy, List.flatMap_map, ctorVarSpec_mapTy σ hσ]
  | _ => rfl

theorem ctorDecl_mapTy (c : WalkCtx) (d : Decl) : ctorDecl c (d.mapTy σ) = ctorDecl c d := by
  simp only [ctorDecl, ctorWalk_eq]
  exact (resetWalk_map _ _ _ (Node.mapTy_keepsShape σ) id (fun s n => by rw [ctorNode_mapTy σ hσ, List.map_id]) _ _).trans
    (List.map_id _)

theorem checkConstructor_mapTy (cfg : Cfg) (c : WalkCtx) (p : Pkg) :
    checkConstructor cfg c (p.mapTy σ) = checkConstructor cfg c p := by
  unfold checkConstructor
  split
  · rfl
  · exact flatMap_decls_mapTy σ cfg p _ (ctorDecl_mapTy σ hσ c)

theorem tonlCall_mapTy (c : WalkCtx) (callee : Callee) : tonlCall c (callee.mapTy σ) = tonlCall c callee := by
  unfold tonlCall
  cases callee with
  | sel pk name xTy =>
    cases pk with
    | some p => rfl
    | none => simp only [Callee.mapTy, typeInfo_map σ hσ]
  | _ => rfl

theorem tonlNode_mapTy (c : WalkCtx) (ig : ISet) (s : TonlState) (n : Node) :
    tonlNode c ig s (n.mapTy σ) = tonlNode c ig s n := by
  unfold tonlNode
  rw [Node.mapTy_kind, Node.mapTy_pos]
  cases n.kind <;> simp only [Kind.mapTy, tonlCall_mapTy σ hσ, tonlTypeUse, typeInfo_map σ hσ]

omit hσ in
theorem inTestOnlyContext_mapTy (c : WalkCtx) (d : Decl) : inTestOnlyContext c (d.mapTy σ) = inTestOnlyContext c d := by
  unfold inTestOnlyContext
  rw [Decl.mapTy_info]
  cases d.info with
  | gen tok doc specs => rfl
  | func name doc recv => cases recv <;> rfl

theorem checkTestOnly_mapTy (cfg : Cfg) (c : WalkCtx) (ig : ISet) (p : Pkg) :
    checkTestOnly cfg c ig (p.mapTy σ) = checkTestOnly cfg c ig p := by
  unfold checkTestOnly
  split
  · rfl
  · simp only [filesToScan_mapTy, List.flatMap_map]
    congr 1; funext f
    unfold tonlFile
    rw [File.mapTy_name, File.mapTy_decls]
    have H : ∀ (s : TonlState) (d : Decl), tonlWalk c ig (inTestOnlyContext c (d.mapTy σ)) s 0 (d.mapTy σ).nodes =
        tonlWalk c ig (inTestOnlyContext c d) s 0 d.nodes := fun s d => by
      rw [inTestOnlyContext_mapTy σ]
      exact tonlWalk_map (Node.mapTy_keepsShape σ) id c ig ig (tonlNode_mapTy σ hσ c ig) _ s 0 d.nodes
    simp only [List.foldl_map, H]

theorem pkgoNode_mapTy (c : WalkCtx) (ig : ISet) (s : PkgoState) (n : Node) :
    pkgoNode c ig s (n.mapTy σ) = pkgoNode c ig s n := by
  unfold pkgoNode
  rw [Node.mapTy_kind, Node.mapTy_pos]
  cases n.kind with
  | selector obj =>
    cases obj with
    | method pk m recv => cases pk <;> simp only [Kind.mapTy, Obj.mapTy, typeName_map σ hσ]
    | _ => rfl
  | _ => rfl

theorem checkPackageOnly_mapTy (cfg : Cfg) (c : WalkCtx) (ig : ISet) (p : Pkg) :
    checkPackageOnly cfg c ig (p.mapTy σ) = checkPackageOnly cfg c ig p := by
  unfold checkPackageOnly
  split
  · rfl
  · simp only [filesToScan_mapTy, List.flatMap_map]
    unfold pkgoFile
    simp only [File.mapTy_decls, Decl.mapTy_nodes, List.foldl_map, pkgoNode_mapTy σ hσ]

end

/-! annotations and @ignore scopes never look at types -/

theorem readAnnotations_mapTy (σ : Ty → Ty) (cfg : Cfg) (p : Pkg) : readAnnotations cfg (p.mapTy σ) = readAnnotations cfg p := by
  unfold readAnnotations
  rw [filesToScan_mapTy, Pkg.mapTy_path, List.map_map]
  congr 1
  apply List.map_congr_left
  intro f _
  simp only [Function.comp, annOfFile, File.mapTy_decls, List.map_map]
  congr 2
  · apply List.map_congr_left; intro d _
    simp only [Function.comp, annOfDeclTypes, Decl.mapTy_info]
    cases d.info with
    | gen tok doc specs => rfl
    | func name doc recv => cases recv <;> rfl
  · apply List.map_congr_left; intro d _
    simp only [Function.comp, annOfDeclFuncs, Decl.mapTy_info]
    cases d.info with
    | gen tok doc specs => rfl
    | func name doc recv => cases recv <;> rfl

theorem declIndex_mapTy (σ : Ty → Ty) (ds : List Decl) (pos : Int) : declIndex (ds.map (Decl.mapTy σ)) pos = declIndex ds pos :=
  declIndex_map _ ds pos pos fun _ => Iff.rfl

theorem inlineWalk_mapTy (σ : Ty → Ty) (cpos cline : Int) (ns : List Node) (found : Bool) (k : Nat) :
    inlineWalk cpos cline found k (ns.map (Node.mapTy σ)) = inlineWalk cpos cline found k ns := by
  rw [inlineWalk_eq, inlineWalk_eq]
  exact pruneWalk_map _ _ (Node.mapTy σ) id (fun _ _ => rfl) found k ns

theorem nextWalk_mapTy (σ : Ty → Ty) (cpos : Int) (ns : List Node) (st : Int × Int) (k : Nat) :
    nextWalk cpos st k (ns.map (Node.mapTy σ)) = nextWalk cpos st k ns := by
  rw [nextWalk_eq, nextWalk_eq]
  exact pruneWalk_map _ _ (Node.mapTy σ) id (fun _ _ => rfl) st k ns

theorem scopeOf_mapTy (σ : Ty → Ty) (f : File) (cm : Comment) : scopeOf (f.mapTy σ) cm = scopeOf f cm := by
  have hprev : prevEndsOnLine (f.mapTy σ) cm = prevEndsOnLine f cm := by
    unfold prevEndsOnLine
    simp only [File.mapTy_decls, declIndex_mapTy]
    cases declIndex f.decls cm.pos with
    | zero => rfl
    | succ i => simp only [List.getElem?_map]; cases f.decls[i]? <;> rfl
  have hinl : findInline (f.mapTy σ) cm = findInline f cm := by
    unfold findInline
    rw [hprev]
    split
    · rfl
    · simp only [File.mapTy_decls, declIndex_mapTy, List.getElem?_map]
      cases f.decls[declIndex f.decls cm.pos]? with
      | none => rfl
      | some d => simp only [Option.map_some, Decl.mapTy_pos, Decl.mapTy_nodes, inlineWalk_mapTy]
  have hnext : ∀ cpos, findNext (f.mapTy σ) cpos = findNext f cpos := by
    intro cpos
    unfold findNext
    simp only [File.mapTy_decls, declIndex_mapTy, List.getElem?_map]
    cases f.decls[declIndex f.decls cpos]? with
    | none => rfl
    | some d => simp only [Option.map_some, Decl.mapTy_pos, Decl.mapTy_stop, Decl.mapTy_nodes, nextWalk_mapTy]
  unfold scopeOf
  simp only [File.mapTy_packagePos, File.mapTy_fileEnd, hinl, hnext]

theorem markerOf_mapTy (σ : Ty → Ty) (f : File) (cm : Comment) : markerOf (f.mapTy σ) cm = markerOf f cm := by
  unfold markerOf
  simp only [scopeOf_mapTy]

theorem readIgnores_mapTy (σ : Ty → Ty) (cfg : Cfg) (p : Pkg) : readIgnores cfg (p.mapTy σ) = readIgnores cfg p := by
  unfold readIgnores ignoreOps
  rw [filesToScan_mapTy]
  simp only [List.flatMap_map, File.mapTy_comments, markerOf_mapTy]

/-- **re-spelling invariance of the whole analysis**: if `σ` only re-spells the types at the use sites, the
    annotations read and the diagnostics are the same -/
theorem analyze_mapTy (σ : Ty → Ty) (hσ : Respells σ) (cfg : Cfg) (facts : List (Name × Annotations)) (p : Pkg) :
    (analyze cfg facts (p.mapTy σ)).ann = (analyze cfg facts p).ann ∧
    (analyze cfg facts (p.mapTy σ)).diags = (analyze cfg facts p).diags := by
  unfold analyze
  simp only [readAnnotations_mapTy, readIgnores_mapTy, Pkg.mapTy_path, Pkg.mapTy_name,
    checkImmutable_mapTy σ hσ, checkConstructor_mapTy σ hσ, checkTestOnly_mapTy σ hσ, checkPackageOnly_mapTy σ hσ, and_self]

end GGV.Model.Prog
