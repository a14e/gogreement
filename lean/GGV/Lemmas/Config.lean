import GGV.Model.Config
/-! Helper lemmas for C18: split / join / trim algebra over code-point lists. -/
namespace GGV.Model.Config

/-- the facts about the case mapping the theorems rely on (validated for Go's tables by the harness) -/
structure UpperOK (upper : Nat → Nat) : Prop where
  idem : ∀ c, upper (upper c) = upper c
  noComma : ∀ c, c ≠ comma → upper c ≠ comma
  noSpace : ∀ c, isSpace c = false → isSpace (upper c) = false

theorem dropSpaces_eq_dropWhile (s : Str) : dropSpaces s = s.dropWhile isSpace := by
  induction s with
  | nil => rfl
  | cons c r ih => rw [dropSpaces, List.dropWhile_cons, ih]

theorem dropSpaces_suffix (s : Str) : dropSpaces s <:+ s :=
  dropSpaces_eq_dropWhile s ▸ List.dropWhile_suffix isSpace

theorem dropSpaces_head {s : Str} {c : Nat} {r : Str} (h : dropSpaces s = c :: r) : isSpace c = false := by
  have := List.head?_dropWhile_not isSpace s
  rwa [← dropSpaces_eq_dropWhile, h] at this

theorem dropSpaces_eq_self {s : Str} (h : ∀ c r, s = c :: r → isSpace c = false) : dropSpaces s = s := by
  cases s with
  | nil => rfl
  | cons c r => exact if_neg (Bool.eq_false_iff.1 (h c r rfl))

theorem trim_prefix (s : Str) : trim s <+: dropSpaces s := by
  rw [← List.reverse_reverse (dropSpaces s)]
  exact List.reverse_prefix.2 (dropSpaces_suffix _)

theorem mem_trim {s : Str} {x : Nat} (h : x ∈ trim s) : x ∈ s :=
  (dropSpaces_suffix s).subset ((trim_prefix s).subset h)

/-- no leading and no trailing blank -/
def Trimmed (t : Str) : Prop :=
  (∀ c r, t = c :: r → isSpace c = false) ∧ (∀ c r, t.reverse = c :: r → isSpace c = false)

theorem trim_of_trimmed (t : Str) (h : Trimmed t) : trim t = t := by
  rw [trim, dropSpaces_eq_self h.1, dropSpaces_eq_self h.2, List.reverse_reverse]

theorem trimmed_trim (s : Str) : Trimmed (trim s) := by
  constructor
  · intro c r h
    obtain ⟨w, hw⟩ := trim_prefix s
    rw [h] at hw
    exact dropSpaces_head hw.symm
  · intro c r h
    rw [trim, List.reverse_reverse] at h
    exact dropSpaces_head h

theorem Trimmed.map {upper : Nat → Nat} (hu : UpperOK upper) {t : Str} (h : Trimmed t) : Trimmed (t.map upper) := by
  have head {t : Str} (h : ∀ c r, t = c :: r → isSpace c = false) :
      ∀ c r, t.map upper = c :: r → isSpace c = false := by
    intro c r hm
    obtain ⟨a, l, ha, rfl, _⟩ := List.map_eq_cons_iff.1 hm
    exact hu.noSpace a (h a l ha)
  exact ⟨head h.1, List.map_reverse ▸ head h.2⟩

theorem splitComma_cons_comma (r : Str) : splitComma (comma :: r) = [] :: splitComma r := rfl

theorem splitComma_cons_of_ne {c : Nat} {r p : Str} {ps : List Str} (hc : c ≠ comma) (hr : splitComma r = p :: ps) :
    splitComma (c :: r) = (c :: p) :: ps := by
  simp [splitComma, hc, hr]

theorem splitComma_ne_nil (s : Str) : splitComma s ≠ [] := by
  induction s with
  | nil => exact List.cons_ne_nil _ _
  | cons c r ih =>
    obtain ⟨q, qs, hr⟩ := List.exists_cons_of_ne_nil ih
    by_cases hc : c = comma
    · exact hc ▸ List.cons_ne_nil _ _
    · exact splitComma_cons_of_ne hc hr ▸ List.cons_ne_nil _ _

theorem splitComma_append {x s p : Str} {ps : List Str} (hx : comma ∉ x) (hs : splitComma s = p :: ps) :
    splitComma (x ++ s) = (x ++ p) :: ps := by
  induction x with
  | nil => exact hs
  | cons c r ih =>
    exact splitComma_cons_of_ne (List.ne_of_not_mem_cons hx).symm (ih (List.not_mem_of_not_mem_cons hx))

theorem splitComma_nocomma (x : Str) (hx : comma ∉ x) : splitComma x = [x] := by
  simpa using splitComma_append (s := []) hx rfl

theorem splitComma_append_comma (x rest : Str) (hx : comma ∉ x) :
    splitComma (x ++ comma :: rest) = x :: splitComma rest := by
  simpa using splitComma_append hx (splitComma_cons_comma rest)

theorem splitComma_join (items : List Str) (hne : items ≠ []) (h : ∀ x ∈ items, comma ∉ x) :
    splitComma (joinComma items) = items := by
  induction items with
  | nil => exact absurd rfl hne
  | cons x r ih =>
    obtain ⟨hx, hr⟩ := List.forall_mem_cons.1 h
    cases r with
    | nil => exact splitComma_nocomma x hx
    | cons y r' => exact (splitComma_append_comma x _ hx).trans (congrArg _ (ih (List.cons_ne_nil _ _) hr))

theorem splitComma_parts_nocomma (s : Str) : ∀ p ∈ splitComma s, comma ∉ p := by
  induction s with
  | nil => exact fun p hp => List.mem_singleton.1 hp ▸ List.not_mem_nil
  | cons c r ih =>
    obtain ⟨q, qs, hr⟩ := List.exists_cons_of_ne_nil (splitComma_ne_nil r)
    by_cases hc : c = comma
    · rw [hc]
      exact List.forall_mem_cons.2 ⟨List.not_mem_nil, ih⟩
    · rw [hr, List.forall_mem_cons] at ih
      rw [splitComma_cons_of_ne hc hr, List.forall_mem_cons]
      exact ⟨fun h => (List.mem_cons.1 h).elim (hc ·.symm) ih.1, ih.2⟩

theorem joinComma_ne_nil (items : List Str) (hne : items ≠ []) (h : ∀ x ∈ items, x ≠ []) : joinComma items ≠ [] := by
  cases items with
  | nil => exact absurd rfl hne
  | cons x r =>
    have hx := h x List.mem_cons_self
    cases r with
    | nil => exact hx
    | cons y r' => exact fun e => hx (List.append_eq_nil_iff.1 e).1

theorem filterMap_eq_self {α} {g : α → Option α} {l : List α} (h : ∀ x ∈ l, g x = some x) : l.filterMap g = l := by
  induction l with
  | nil => rfl
  | cons x r ih =>
    obtain ⟨hx, hr⟩ := List.forall_mem_cons.1 h
    rw [List.filterMap_cons_some hx, ih hr]

end GGV.Model.Config
