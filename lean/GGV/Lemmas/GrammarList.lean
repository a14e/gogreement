import GGV.Lemmas.Grammar
/-! The list-argument recogniser: what it returns is a decomposition of the line (soundness), and every line of the
    documented shape is recognised with exactly its items (completeness). -/
namespace GGV.Model.Grammar
open GGV.Model

variable {k : IdClass}

theorem recogniseList_some {kw line : Bytes} {names : List Bytes} (h : recogniseList kw k line = some names) :
    ∃ t, lead kw line = some t ∧ ((tailOk t = true ∧ names = []) ∨
      ∃ b t' id0 r0, t = b :: t' ∧ isWs b = true ∧ parseId k (dropWs t) = some (id0, r0) ∧
        longestAccepted (chain k (r0.length + 1) id0 r0) = some names) := by
  unfold recogniseList at h
  split at h
  · cases h
  · next hl => exact ⟨[], hl, .inl ⟨rfl, (Option.some.inj h).symm⟩⟩
  · next b t hl =>
    refine ⟨_, hl, ?_⟩
    have noArg (h : (if tailOk (b :: t) = true then some [] else none) = some names) :
        tailOk (b :: t) = true ∧ names = [] :=
      (Option.ite_some_none_eq_some.1 h).imp_right Eq.symm
    rcases Bool.eq_false_or_eq_true (isWs b) with hb | hb
    · simp only [hb, Bool.not_true, Bool.false_eq_true, if_false] at h
      split at h
      · exact .inl (noArg h)
      · next id0 r0 hp =>
        split at h
        · next ns hc => exact .inr ⟨b, t, id0, r0, rfl, hb, hp, Option.some.inj h ▸ hc⟩
        · exact .inl (noArg h)
    · simp [hb] at h

theorem recogniseList_of_chain {kw line t id0 r0 : Bytes} {b : UInt8} {names : List Bytes}
    (hl : lead kw line = some (b :: t)) (hb : isWs b = true) (hp : parseId k (dropWs (b :: t)) = some (id0, r0))
    (hc : longestAccepted (chain k (r0.length + 1) id0 r0) = some names) : recogniseList kw k line = some names := by
  simp only [recogniseList, hl, hb, hp, hc, Bool.not_true, Bool.false_eq_true, if_false]

theorem parseConstructor_eq_some {line : Bytes} {names : List Bytes} :
    parseConstructor line = some names ↔ names ≠ [] ∧ recogniseList kwConstructor goIdent line = some names := by
  unfold parseConstructor
  constructor
  · intro h
    split at h
    · next n ns hr => cases h; exact ⟨List.cons_ne_nil _ _, hr⟩
    · cases h
  · rintro ⟨hne, hr⟩
    obtain ⟨n, ns, rfl⟩ := List.exists_cons_of_ne_nil hne
    rw [hr]

theorem parseIgnore_eq_some {line : Bytes} {codes : List Bytes} :
    parseIgnore line = some codes ↔ ∃ names, names ≠ [] ∧ recogniseList kwIgnore codeTok line = some names ∧
      codes = names.map (·.map upperAscii) := by
  unfold parseIgnore
  constructor
  · intro h
    split at h
    · next n ns hr => exact ⟨_, List.cons_ne_nil _ _, hr, (Option.some.inj h).symm⟩
    · cases h
  · rintro ⟨names, hne, hr, rfl⟩
    obtain ⟨n, ns, rfl⟩ := List.exists_cons_of_ne_nil hne
    rw [hr]

/-- neither a blank nor a comma starts or continues an identifier of the class -/
structure SepFree (k : IdClass) : Prop where
  ws_rest : ∀ b, isWs b = true → k.rest b = false
  comma_rest : k.rest 44 = false
  ws_start : ∀ b, isWs b = true → k.start b = false

theorem isWs_iff (b : UInt8) : isWs b = true ↔ b ∈ [9, 10, 12, 13, 32] := by
  simp only [isWs, Bool.or_eq_true, BEq.beq, decide_eq_true_eq, List.mem_cons, List.not_mem_nil, or_false, or_assoc]

theorem sepFree_of_bytes (k : IdClass)
    (h : ∀ b ∈ ([9, 10, 12, 13, 32] : List UInt8), k.rest b = false ∧ k.start b = false) (hc : k.rest 44 = false) :
    SepFree k :=
  ⟨fun b hb => (h b ((isWs_iff b).1 hb)).1, hc, fun b hb => (h b ((isWs_iff b).1 hb)).2⟩

theorem sepFree_goIdent : SepFree goIdent := sepFree_of_bytes _ (by decide +kernel) (by decide +kernel)

theorem sepFree_pkgPath : SepFree pkgPath := sepFree_of_bytes _ (by decide +kernel) (by decide +kernel)

theorem sepFree_codeTok : SepFree codeTok := sepFree_of_bytes _ (by decide +kernel) (by decide +kernel)

/-- the text cannot continue an identifier: it is empty or starts with a byte outside `rest` -/
def Stops (k : IdClass) (t : Bytes) : Prop := ∀ b r, t = b :: r → k.rest b = false

theorem stops_ws_comma {a r : Bytes} (hk : SepFree k) (ha : AllWs a) : Stops k (a ++ 44 :: r) := by
  intro c r' e
  cases a with
  | nil => cases e; exact hk.comma_rest
  | cons a0 a => cases e; exact hk.ws_rest _ (ha _ List.mem_cons_self)

theorem parseId_append {id t : Bytes} (hid : ValidId k id) (ht : Stops k t) :
    parseId k (id ++ t) = some (id, t) := by
  obtain ⟨b, r, rfl, hb, hr⟩ := hid
  simp only [List.cons_append, parseId, hb, if_true]
  rw [spanP_stop hr ht]

theorem validId_head_nonws {id t : Bytes} (hk : SepFree k) (hid : ValidId k id) :
    dropWs (id ++ t) = id ++ t := by
  obtain ⟨b, r, rfl, hb, _⟩ := hid
  exact dropWs_of_nonws_head (Bool.eq_false_iff.2 fun h => Bool.false_ne_true ((hk.ws_start b h).symm.trans hb))

theorem parseSep_append {a b id t : Bytes} (hk : SepFree k) (ha : AllWs a) (hb : AllWs b) (hid : ValidId k id)
    (ht : Stops k t) :
    parseSep k (a ++ 44 :: (b ++ (id ++ t))) = some (id, t) := by
  unfold parseSep
  rw [dropWs_append_of_ws ha, dropWs_of_nonws_head (by decide)]
  simp only
  rw [dropWs_append_of_ws hb, validId_head_nonws hk hid]
  exact parseId_append hid ht

theorem parseSep_some {s id rest : Bytes} (h : parseSep k s = some (id, rest)) :
    ∃ a b, AllWs a ∧ AllWs b ∧ s = a ++ 44 :: (b ++ (id ++ rest)) ∧ ValidId k id := by
  unfold parseSep at h
  split at h
  · next r hr =>
    obtain ⟨a, ha, hs, _⟩ := dropWs_spec s
    obtain ⟨b, hb, hr2, _⟩ := dropWs_spec r
    obtain ⟨e, hv⟩ := parseId_some h
    exact ⟨a, b, ha, hb, by rw [hs, hr, hr2, e], hv⟩
  · cases h

/-- the separators-and-identifiers after the first identifier: `(blanks, blanks, ID)` stands for `blanks , blanks ID` -/
def sepText : List (Bytes × Bytes × Bytes) → Bytes
  | [] => []
  | (a, b, id) :: more => a ++ 44 :: (b ++ (id ++ sepText more))

def WfItems (k : IdClass) (more : List (Bytes × Bytes × Bytes)) : Prop :=
  ∀ x ∈ more, AllWs x.1 ∧ AllWs x.2.1 ∧ ValidId k x.2.2

theorem sepText_cons_append (a b id : Bytes) (more : List (Bytes × Bytes × Bytes)) (trail : Bytes) :
    sepText ((a, b, id) :: more) ++ trail = a ++ 44 :: (b ++ (id ++ (sepText more ++ trail))) := by
  simp only [sepText, List.append_assoc, List.cons_append]

theorem sepText_append_stops {more : List (Bytes × Bytes × Bytes)} {trail : Bytes} (hk : SepFree k)
    (hw : WfItems k more) (ht : Stops k trail) :
    Stops k (sepText more ++ trail) := by
  cases more with
  | nil => exact ht
  | cons x more =>
    rw [sepText_cons_append]
    exact stops_ws_comma hk (hw x List.mem_cons_self).1

theorem acceptAfter_stops {t : Bytes} (hk : SepFree k) (h : acceptAfter t = true) : Stops k t := by
  rcases Bool.or_eq_true_iff.1 h with h | h
  · exact fun b r e => hk.ws_rest b (tailOk_head h b r e)
  · obtain ⟨w, hw, e, _⟩ := dropWs_spec t
    split at h
    · next r hr => rw [e, hr]; exact stops_ws_comma hk hw
    · cases h

/-- why the fuel `r0.length + 1` of `recogniseList` suffices: every further item consumes at least its comma -/
theorem sepText_length (more : List (Bytes × Bytes × Bytes)) : more.length ≤ (sepText more).length := by
  induction more with
  | nil => exact Nat.le_refl _
  | cons x more ih =>
    simp only [sepText, List.length_cons, List.length_append]
    exact Nat.le_trans (Nat.succ_le_succ (Nat.le_trans ih (Nat.le_trans (Nat.le_add_left _ _) (Nat.le_add_left _ _))))
      (Nat.le_add_left _ _)

theorem longestAccepted_cons (id rest : Bytes) (l : List (Bytes × Bytes)) (names : List Bytes) :
    longestAccepted ((id, rest) :: l) = some names ↔
      (∃ ns, longestAccepted l = some ns ∧ names = id :: ns) ∨
      (longestAccepted l = none ∧ acceptAfter rest = true ∧ names = [id]) := by
  rw [longestAccepted]
  cases longestAccepted l <;> simp [@eq_comm _ _ names]

theorem chain_of_none {r : Bytes} (h : parseSep k r = none) (fuel : Nat) (id : Bytes) :
    chain k fuel id r = [(id, r)] := by
  cases fuel with
  | zero => rfl
  | succ n => rw [chain, h]

theorem chain_of_some {r id' r' : Bytes} (h : parseSep k r = some (id', r')) (n : Nat) (id : Bytes) :
    chain k (n + 1) id r = (id, r) :: chain k n id' r' := by
  rw [chain, h]

/-- the chain over a documented list yields all of its identifiers, when the text after the last one lets the regex finish
    and does not continue the list -/
theorem longestAccepted_chain {trail : Bytes} (hk : SepFree k) (hacc : acceptAfter trail = true)
    (hstop : parseSep k trail = none) :
    ∀ (more : List (Bytes × Bytes × Bytes)) (id0 : Bytes) (fuel : Nat), WfItems k more → more.length ≤ fuel →
      longestAccepted (chain k fuel id0 (sepText more ++ trail)) = some (id0 :: more.map (·.2.2)) := by
  intro more
  induction more with
  | nil =>
    intro id0 fuel _ _
    rw [sepText, List.nil_append, chain_of_none hstop]
    exact (longestAccepted_cons ..).2 (.inr ⟨rfl, hacc, rfl⟩)
  | cons x more ih =>
    obtain ⟨a, b, id⟩ := x
    intro id0 fuel hw hlen
    obtain ⟨⟨ha, hb, hid⟩, hw'⟩ := List.forall_mem_cons.1 hw
    cases fuel with
    | zero => cases hlen
    | succ n =>
      have hps := parseSep_append hk ha hb hid (sepText_append_stops hk hw' (acceptAfter_stops hk hacc))
      rw [← sepText_cons_append] at hps
      rw [chain_of_some hps]
      exact (longestAccepted_cons ..).2 (.inl ⟨_, ih id n hw' (Nat.le_of_succ_le_succ hlen), rfl⟩)

theorem chain_longest {fuel : Nat} {id0 r0 : Bytes} {names : List Bytes}
    (h : longestAccepted (chain k fuel id0 r0) = some names) :
    ∃ more trail, WfItems k more ∧ acceptAfter trail = true ∧ r0 = sepText more ++ trail ∧
      names = id0 :: more.map (·.2.2) := by
  fun_induction chain k fuel id0 r0 generalizing names with
  -- the chain ends here (fuel exhausted, or `parseSep` fails): one entry, accepted or not
  | case1 id r | case3 _ id r _ =>
    rcases (longestAccepted_cons ..).1 h with ⟨_, h, _⟩ | ⟨_, hacc, rfl⟩
    · cases h
    · exact ⟨[], r, List.forall_mem_nil _, hacc, rfl, rfl⟩
  -- `parseSep` yields a further identifier
  | case2 n id r id' r' hs ih =>
    rcases (longestAccepted_cons ..).1 h with ⟨ns, hns, rfl⟩ | ⟨_, hacc, rfl⟩
    · obtain ⟨more, trail, hw, hacc, rfl, rfl⟩ := ih hns
      obtain ⟨a, b, ha, hb, rfl, hv⟩ := parseSep_some hs
      exact ⟨(a, b, id') :: more, trail, List.forall_mem_cons.2 ⟨⟨ha, hb, hv⟩, hw⟩, hacc,
        (sepText_cons_append ..).symm, rfl⟩
    · exact ⟨[], r, List.forall_mem_nil _, hacc, rfl, rfl⟩

end GGV.Model.Grammar
