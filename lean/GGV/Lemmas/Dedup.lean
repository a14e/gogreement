import GGV.Model.Checkers
/-! The once-per-file reporting fold of testonly / packageonly, characterised declaratively:
    a keyed event is reported iff it is the first unsuppressed event with its key. -/
namespace GGV.Model.Prog

/-- what a visited node contributes: a diagnostic reported every time, or one deduplicated per key -/
inductive Ev (K : Type) where
  | plain (d : Diag)
  | keyed (k : K) (d : Diag)

structure DState (K : Type) where
  reported : List K := []
  out : List Diag := []

variable {K : Type} [DecidableEq K]

/-- one step: the suppression test comes BEFORE the "already reported" test (so that a suppressed
    use does not hide later ones) -/
def applyEv (sup : Diag → Bool) (s : DState K) : Ev K → DState K
  | .plain d => if sup d then s else { s with out := s.out ++ [d] }
  | .keyed k d =>
    if sup d then s
    else if s.reported.contains k then s
    else { reported := s.reported ++ [k], out := s.out ++ [d] }

def runEvs (sup : Diag → Bool) (s : DState K) (evs : List (Ev K)) : DState K := evs.foldl (applyEv sup) s

/-- the keyed event `d` with key `k` is the first unsuppressed one with that key in `evs` -/
def FirstUnsuppressed (sup : Diag → Bool) (evs : List (Ev K)) (k : K) (d : Diag) : Prop :=
  ∃ a b, evs = a ++ Ev.keyed k d :: b ∧ sup d = false ∧ ∀ d', Ev.keyed k d' ∈ a → sup d' = true

theorem runEvs_cons (sup : Diag → Bool) (s : DState K) (ev : Ev K) (evs : List (Ev K)) :
    runEvs sup s (ev :: evs) = runEvs sup (applyEv sup s ev) evs := rfl

theorem runEvs_append (sup : Diag → Bool) (s : DState K) (a b : List (Ev K)) :
    runEvs sup s (a ++ b) = runEvs sup (runEvs sup s a) b := List.foldl_append

omit [DecidableEq K] in
theorem firstUnsuppressed_nil (sup : Diag → Bool) (k : K) (d : Diag) : ¬ FirstUnsuppressed sup [] k d := by
  rintro ⟨a, b, e, _⟩
  cases a <;> simp at e

omit [DecidableEq K] in
theorem firstUnsuppressed_cons (sup : Diag → Bool) (ev : Ev K) (evs : List (Ev K)) (k : K) (d : Diag) :
    FirstUnsuppressed sup (ev :: evs) k d ↔
      (ev = .keyed k d ∧ sup d = false) ∨ ((∀ d', ev = .keyed k d' → sup d' = true) ∧ FirstUnsuppressed sup evs k d) := by
  constructor
  · rintro ⟨a, b, e, h1, h2⟩
    cases a with
    | nil => exact Or.inl ⟨(List.cons.inj e).1, h1⟩
    | cons x a =>
      obtain ⟨rfl, rfl⟩ := List.cons.inj e
      exact Or.inr ⟨fun d' hd' => h2 d' (hd' ▸ List.mem_cons_self), a, b, rfl, h1,
        fun d' hd' => h2 d' (List.mem_cons_of_mem _ hd')⟩
  · rintro (⟨rfl, h⟩ | ⟨h0, a, b, rfl, h1, h2⟩)
    · exact ⟨[], evs, rfl, h, by simp⟩
    · refine ⟨ev :: a, b, rfl, h1, fun d' hd' => ?_⟩
      rcases List.mem_cons.1 hd' with rfl | hd'
      · exact h0 d' rfl
      · exact h2 d' hd'

omit [DecidableEq K] in
theorem firstUnsuppressed_cons_plain (sup : Diag → Bool) (d0 : Diag) (evs : List (Ev K)) (k : K) (d : Diag) :
    FirstUnsuppressed sup (.plain d0 :: evs) k d ↔ FirstUnsuppressed sup evs k d := by
  simp [firstUnsuppressed_cons]

omit [DecidableEq K] in
theorem firstUnsuppressed_cons_keyed (sup : Diag → Bool) (k0 : K) (d0 : Diag) (evs : List (Ev K)) (k : K) (d : Diag) :
    FirstUnsuppressed sup (.keyed k0 d0 :: evs) k d ↔
      (k = k0 ∧ d = d0 ∧ sup d = false) ∨ (¬ (k = k0 ∧ sup d0 = false) ∧ FirstUnsuppressed sup evs k d) := by
  simp only [firstUnsuppressed_cons, Ev.keyed.injEq]
  constructor
  · rintro (⟨⟨rfl, rfl⟩, h⟩ | ⟨h, hf⟩)
    · exact Or.inl ⟨rfl, rfl, h⟩
    · exact Or.inr ⟨fun ⟨hk, hs⟩ => by simp [h d0 ⟨hk.symm, rfl⟩] at hs, hf⟩
  · rintro (⟨rfl, rfl, h⟩ | ⟨h, hf⟩)
    · exact Or.inl ⟨⟨rfl, rfl⟩, h⟩
    · exact Or.inr ⟨fun d' ⟨hk, hd⟩ => by simpa [hk.symm, hd] using h, hf⟩

theorem mem_out_applyEv_plain (sup : Diag → Bool) (s : DState K) (d dg : Diag) :
    dg ∈ (applyEv sup s (.plain d)).out ↔ dg ∈ s.out ∨ (dg = d ∧ sup dg = false) := by
  by_cases h : dg = d
  · subst h; cases hs : sup dg <;> simp [applyEv, hs]
  · cases hs : sup d <;> simp [applyEv, hs, h]

@[simp] theorem reported_applyEv_plain (sup : Diag → Bool) (s : DState K) (d : Diag) :
    (applyEv sup s (.plain d)).reported = s.reported := by
  cases hs : sup d <;> simp [applyEv, hs]

theorem mem_out_applyEv_keyed (sup : Diag → Bool) (s : DState K) (k : K) (d dg : Diag) :
    dg ∈ (applyEv sup s (.keyed k d)).out ↔ dg ∈ s.out ∨ (k ∉ s.reported ∧ dg = d ∧ sup dg = false) := by
  by_cases h : dg = d
  · subst h; cases hs : sup dg <;> by_cases hr : k ∈ s.reported <;> simp [applyEv, hs, hr]
  · cases hs : sup d <;> by_cases hr : k ∈ s.reported <;> simp [applyEv, hs, hr, h]

theorem mem_reported_applyEv_keyed (sup : Diag → Bool) (s : DState K) (k k' : K) (d : Diag) :
    k' ∈ (applyEv sup s (.keyed k d)).reported ↔ k' ∈ s.reported ∨ (k' = k ∧ sup d = false) := by
  cases hs : sup d <;> by_cases hr : k ∈ s.reported <;> simp [applyEv, hs, hr]
  rintro rfl; exact hr

theorem mem_runEvs (sup : Diag → Bool) (evs : List (Ev K)) (s : DState K) (dg : Diag) :
    dg ∈ (runEvs sup s evs).out ↔
      dg ∈ s.out ∨ (Ev.plain dg ∈ evs ∧ sup dg = false) ∨
      (∃ k, k ∉ s.reported ∧ FirstUnsuppressed sup evs k dg) := by
  induction evs generalizing s with
  | nil => simp [runEvs, firstUnsuppressed_nil]
  | cons ev rest ih =>
    rw [runEvs_cons, ih]
    -- both sides are the same disjunction up to the order of the cases
    cases ev with
    | plain d =>
      simp only [mem_out_applyEv_plain, reported_applyEv_plain, firstUnsuppressed_cons_plain, List.mem_cons, Ev.plain.injEq,
        or_and_right, or_assoc]
    | keyed k0 d =>
      simp only [mem_out_applyEv_keyed, mem_reported_applyEv_keyed, firstUnsuppressed_cons_keyed, List.mem_cons, reduceCtorEq,
        false_or, not_or, and_or_left, exists_or, or_assoc, and_assoc]
      have : (∃ k, k ∉ s.reported ∧ k = k0 ∧ dg = d ∧ sup dg = false) ↔ k0 ∉ s.reported ∧ dg = d ∧ sup dg = false :=
        ⟨fun ⟨_, h, e, h'⟩ => ⟨e ▸ h, h'⟩, fun ⟨h, h'⟩ => ⟨k0, h, rfl, h'⟩⟩
      rw [this, or_left_comm (a := Ev.plain dg ∈ rest ∧ _)]

/-- from the initial state: a diagnostic is reported iff it is an unsuppressed plain event, or the first
    unsuppressed keyed event of its key -/
theorem mem_runEvs_init (sup : Diag → Bool) (evs : List (Ev K)) (dg : Diag) :
    dg ∈ (runEvs sup ({} : DState K) evs).out ↔
      (Ev.plain dg ∈ evs ∧ sup dg = false) ∨ (∃ k, FirstUnsuppressed sup evs k dg) := by
  rw [mem_runEvs]
  simp

def Ev.diag : Ev K → Diag
  | .plain d => d
  | .keyed _ d => d

theorem exists_ev_of_mem_runEvs (sup : Diag → Bool) (evs : List (Ev K)) (dg : Diag)
    (h : dg ∈ (runEvs sup ({} : DState K) evs).out) : ∃ ev ∈ evs, ev.diag = dg := by
  rcases (mem_runEvs_init sup evs dg).1 h with ⟨h, _⟩ | ⟨k, a, b, rfl, _⟩
  · exact ⟨_, h, rfl⟩
  · exact ⟨.keyed k dg, by simp, rfl⟩

/-- `view` reads the dedup state out of the visitor's own state (`TonlState`, `PkgoState`) -/
theorem foldl_eq_runEvs {σ α : Type} (view : σ → DState K) (sup : Diag → Bool) (step : σ → α → σ) (evs : α → List (Ev K))
    (l : List α) (h : ∀ s, ∀ a ∈ l, view (step s a) = runEvs sup (view s) (evs a)) (s : σ) :
    view (l.foldl step s) = runEvs sup (view s) (l.flatMap evs) := by
  induction l generalizing s with
  | nil => rfl
  | cons a r ih =>
    rw [List.foldl_cons, ih (fun s b hb => h s b (List.mem_cons_of_mem _ hb)), h s a List.mem_cons_self,
      List.flatMap_cons, runEvs_append]

theorem foldl_eq_runEvs_filterMap {σ α : Type} (view : σ → DState K) (sup : Diag → Bool) (step : σ → α → σ)
    (ev : α → Option (Ev K)) (l : List α)
    (h : ∀ s a, view (step s a) = (ev a).elim (view s) (applyEv sup (view s))) (s : σ) :
    view (l.foldl step s) = runEvs sup (view s) (l.filterMap ev) := by
  induction l generalizing s with
  | nil => rfl
  | cons a r ih =>
    rw [List.foldl_cons, ih, h s a, List.filterMap_cons]
    cases ev a <;> rfl

def Ev.mapDiag (δ : Diag → Diag) : Ev K → Ev K
  | .plain d => .plain (δ d)
  | .keyed k d => .keyed k (δ d)

def DState.mapOut (δ : Diag → Diag) (s : DState K) : DState K := { s with out := s.out.map δ }

theorem applyEv_mapDiag (δ : Diag → Diag) (sup sup' : Diag → Bool) (h : ∀ d, sup' (δ d) = sup d) (s : DState K) (ev : Ev K) :
    applyEv sup' (s.mapOut δ) (ev.mapDiag δ) = (applyEv sup s ev).mapOut δ := by
  cases ev with
  | plain d => simp only [applyEv, Ev.mapDiag, h, DState.mapOut]; split <;> simp
  | keyed k d => simp only [applyEv, Ev.mapDiag, h, DState.mapOut]; split <;> (try split) <;> simp_all

theorem elim_applyEv_mapDiag (δ : Diag → Diag) (sup sup' : Diag → Bool) (h : ∀ d, sup' (δ d) = sup d) (s : DState K)
    (ev : Option (Ev K)) :
    (ev.map (Ev.mapDiag δ)).elim (s.mapOut δ) (applyEv sup' (s.mapOut δ)) = (ev.elim s (applyEv sup s)).mapOut δ := by
  cases ev with
  | none => rfl
  | some ev => exact applyEv_mapDiag δ sup sup' h s ev

end GGV.Model.Prog
