import GGV.Model.Checkers
/-! The indices (`Env` lookups): an environment without annotations of a kind answers every lookup of that kind with
    "no". -/
namespace GGV.Model.Prog
open GGV.Model

theorem isImmutable_of_noImmutable (e : Env) (h : e.noImmutable = true) (pkg ty : Name) : e.isImmutable pkg ty = false := by
  simp only [Env.noImmutable, List.all_eq_true, List.isEmpty_iff] at h
  simp only [Env.isImmutable, List.any_eq_false]
  intro pa hpa
  simp [h pa hpa]

theorem ctorNames_of_noConstructors (e : Env) (h : e.noConstructors = true) (pkg ty : Name) : e.ctorNames pkg ty = [] := by
  simp only [Env.noConstructors, List.all_eq_true, List.isEmpty_iff] at h
  simp only [Env.ctorNames, List.flatMap_eq_nil_iff]
  intro pa hpa
  split
  · refine List.flatMap_eq_nil_iff.2 fun c hc => ?_
    split
    · exact h pa hpa c hc
    · rfl
  · rfl

theorem testOnly_of_noTestOnly (e : Env) (h : e.noTestOnly = true) :
    (∀ p t, e.testOnlyType p t = false) ∧ (∀ p f, e.testOnlyFunc p f = false) ∧ (∀ p t m, e.testOnlyMethod p t m = false) := by
  simp only [Env.noTestOnly, List.all_eq_true, List.isEmpty_iff] at h
  simp only [Env.testOnlyType, Env.testOnlyFunc, Env.testOnlyMethod, List.any_eq_false]
  refine ⟨?_, ?_, ?_⟩ <;> intros <;> simp [h _ ‹_›]

theorem attachments_of_noPackageOnly (e : Env) (h : e.noPackageOnly = true) (pkg : Name) (k : AKind) (recv name : Name) :
    e.attachments pkg k recv name = [] := by
  simp only [Env.noPackageOnly, List.all_eq_true, List.isEmpty_iff] at h
  simp only [Env.attachments, List.flatMap_eq_nil_iff]
  intro pa hpa
  split
  · refine List.flatMap_eq_nil_iff.2 fun a ha => ?_
    split
    · exact h pa hpa a ha
    · rfl
  · rfl
end GGV.Model.Prog
