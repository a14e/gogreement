import GGV.Model.IgnoreSet
/-! Helper lemmas for C16/C08/C10: representation invariant of `ISet` along any history. -/
namespace GGV.Model

theorem getElem?_concat_eq_some {α} {l : List α} {a x : α} {i : Nat} :
    (l ++ [a])[i]? = some x ↔ l[i]? = some x ∨ (x = a ∧ i = l.length) := by
  -- `zipIdx` turns indexing into membership, which splits over `++`
  simp [← List.mk_mem_zipIdx_iff_getElem?, List.zipIdx_append]

/-- representation invariant: `s` stores the operations `ops`, of which only membership matters, not their order.
    `minPos`/`maxPos` use 0 for "not set", so they bound the ranges only if every range starts at a real position (`bounds`). -/
structure RepInv (s : ISet) (ops : List Op) : Prop where
  markers : ∀ m, m ∈ s.markers ↔ Op.add m ∈ ops
  mods : ∀ t, t ∈ s.modIgn ↔ ∃ cs, Op.addModule cs ∈ ops ∧ t ∈ cs
  uninit : s.init = false → ops = []
  idx : ∀ c i, i ∈ s.index c ↔ ∃ m, s.markers[i]? = some m ∧ c ∈ m.codes
  bounds : (∀ m, Op.add m ∈ ops → 1 ≤ m.start) → 0 ≤ s.minPos ∧
    ∀ m ∈ s.markers, 1 ≤ s.minPos ∧ s.minPos ≤ m.start ∧ (1 ≤ m.stop → m.stop ≤ s.maxPos)

namespace RepInv
variable {s : ISet} {ops : List Op} (h : RepInv s ops)
include h

theorem ensure : RepInv s.ensure ops ∧ s.ensure.init = true := by
  unfold ISet.ensure
  cases hi : s.init
  · cases h.uninit hi
    exact ⟨{ markers := by simp, mods := h.mods, uninit := fun _ => rfl, idx := by simp, bounds := by simp }, rfl⟩
  · exact ⟨h, hi⟩

theorem add (m : Marker) : RepInv (s.add m) (ops ++ [.add m]) := by
  obtain ⟨he, hi⟩ := h.ensure
  exact {
    markers := by simp [ISet.add, he.markers]
    mods := by simp [ISet.add, he.mods]
    uninit := fun hf => nomatch hi.symm.trans hf
    idx := fun c i => by
      -- the new marker sits at the old length, which is the index `Add` appends for each of its codes
      simp only [ISet.add, getElem?_concat_eq_some, or_and_right, exists_or, ← he.idx]
      split <;> simp [*, and_assoc]
    bounds := fun hv => by
      have hm := hv m (by simp)
      obtain ⟨hnn, hb⟩ := he.bounds fun m' hm' => hv m' (List.mem_append_left _ hm')
      have hmin : 1 ≤ (s.add m).minPos ∧ (s.add m).minPos ≤ m.start ∧
          (1 ≤ s.ensure.minPos → (s.add m).minPos ≤ s.ensure.minPos) := by
        simp only [ISet.add]; split <;> omega
      have hmax : m.stop ≤ (s.add m).maxPos ∧ (1 ≤ s.ensure.maxPos → s.ensure.maxPos ≤ (s.add m).maxPos) := by
        simp only [ISet.add]; split <;> omega
      refine ⟨Int.le_of_lt hmin.1, fun m' hm' => ?_⟩
      rcases List.mem_append.1 hm' with hm' | hm'
      · obtain ⟨h1, h2, h3⟩ := hb m' hm'
        exact ⟨hmin.1, Int.le_trans (hmin.2.2 h1) h2, fun hs => Int.le_trans (h3 hs) (hmax.2 (Int.le_trans hs (h3 hs)))⟩
      · cases List.mem_singleton.1 hm'
        exact ⟨hmin.1, hmin.2.1, fun _ => hmax.1⟩ }

theorem addModule (cs : List String) : RepInv (s.addModule cs) (ops ++ [.addModule cs]) := by
  obtain ⟨he, hi⟩ := h.ensure
  exact {
    markers := by simp [ISet.addModule, he.markers]
    mods := by simp [ISet.addModule, he.mods]
    uninit := fun hf => nomatch hi.symm.trans hf
    idx := he.idx
    bounds := fun hv => he.bounds fun m hm => hv m (List.mem_append_left _ hm) }

theorem foldl (ops' : List Op) : RepInv (ops'.foldl step s) (ops ++ ops') := by
  induction ops' generalizing s ops with
  | nil => simpa using h
  | cons op r ih =>
    rw [List.append_cons]
    apply ih
    cases op with
    | add m => exact h.add m
    | addModule cs => exact h.addModule cs

/-- every index stored in the code index is a valid index into `markers` (Go: `s.Markers[idx]` never panics) -/
theorem index_in_range {c : String} {i : Nat} (hmem : i ∈ s.index c) : i < s.markers.length := by
  obtain ⟨m, hm, -⟩ := (h.idx c i).1 hmem
  exact (List.getElem?_eq_some_iff.1 hm).1

/-- on a reachable state whose ranges start at real positions, `Contains` decides the specification `C16.Suppressed` -/
theorem contains_iff (hv : ∀ m, Op.add m ∈ ops → 1 ≤ m.start) (hier : String → List String)
    (code : String) (pos : Int) :
    s.containsH hier code pos = true ↔
      ∃ t ∈ hier code, (∃ cs, Op.addModule cs ∈ ops ∧ t ∈ cs) ∨
        ∃ m, Op.add m ∈ ops ∧ t ∈ m.codes ∧ m.start ≤ pos ∧ pos ≤ m.stop := by
  unfold ISet.containsH
  cases hi : s.init
  · simp [h.uninit hi]
  -- code side: a stored module token, or `minPos ≠ 0 ∧ minPos ≤ pos ≤ maxPos` and an indexed marker around `pos`
  · simp only [Bool.not_true, Bool.false_eq_true, ↓reduceIte, List.contains_eq_mem, List.any_eq_true,
      decide_eq_true_eq, Bool.if_false_left, Bool.if_true_left, Bool.or_eq_true,
      Bool.and_eq_true, Bool.not_eq_eq_eq_not, decide_eq_false_iff_not, ← h.mods, ← h.markers]
    constructor
    · rintro (⟨t, ht, hm⟩ | ⟨-, t, ht, i, hi, hr⟩)
      · exact ⟨t, ht, .inl hm⟩
      · obtain ⟨m, hm, hc⟩ := (h.idx t i).1 hi
        rw [hm] at hr
        exact ⟨t, ht, .inr ⟨m, List.mem_of_getElem? hm, hc, by simpa using hr⟩⟩
    · rintro ⟨t, ht, hm | ⟨m, hm, hc, hr⟩⟩
      · exact .inl ⟨t, ht, hm⟩
      · obtain ⟨i, hi⟩ := List.mem_iff_getElem?.1 hm
        have := (h.bounds hv).2 m hm
        exact .inr ⟨by omega, t, ht, i, (h.idx t i).2 ⟨m, hi, hc⟩, by simp [hi, hr]⟩

end RepInv

theorem inv_run (ops : List Op) : RepInv (run ops) ops :=
  RepInv.foldl (ops := []) (by constructor <;> simp) ops

end GGV.Model
