import GGV.Model.Checkers
/-!
# The walks of the checkers

The model walks the preorder node list of a declaration in one of two ways (the packageonly checker is a plain
fold): with a state that is reset at FuncDecl nodes (`immWalk`, `ctorWalk`: `resetWalk`), or with a counter of nodes
still to be skipped, set when a subtree is pruned (`tonlWalk`, `inlineWalk`, `nextWalk`: `pruneWalk`). What the theorems
need of a walk — that it is natural in the node list, and what it does on a declaration of go/ast's shape
(`DeclShape`) — is proved for the two schemes. The file ends with what is walked: the file filter `filesToScan` and
`declIndex`, under membership and under a map of the files / declarations.
-/
namespace GGV.Model.Prog
open GGV.Model

def Node.isFuncDecl (n : Node) : Bool :=
  match n.kind with
  | .funcDecl _ => true
  | _ => false

theorem Node.isFuncDecl_iff {n : Node} : n.isFuncDecl = true ↔ ∃ name, n.kind = .funcDecl name := by
  unfold Node.isFuncDecl
  split <;> simp_all

theorem foldl_map_hom {α β σ τ : Type} (G : α → β) (S : σ → τ) (step : σ → α → σ) (step' : τ → β → τ)
    (H : ∀ s a, step' (S s) (G a) = S (step s a)) (l : List α) (s : σ) :
    (l.map G).foldl step' (S s) = S (l.foldl step s) := by
  rw [List.foldl_map]
  exact List.foldl_hom S H

theorem flatMap_map_hom {α α' β β' : Type} (g : α → α') (δ : β → β') (f : α → List β) (f' : α' → List β')
    (h : ∀ a, f' (g a) = (f a).map δ) (l : List α) : (l.map g).flatMap f' = (l.flatMap f).map δ := by
  simp only [List.flatMap_map, List.map_flatMap, h]

def resetWalk {σ β : Type} (reset : Name → σ) (f : σ → Node → List β) : σ → List Node → List β
  | _, [] => []
  | s, n :: r =>
    match n.kind with
    | .funcDecl name => resetWalk reset f (reset name) r
    | _ => f s n ++ resetWalk reset f s r

section
variable {σ β : Type} (reset : Name → σ) (f : σ → Node → List β)

theorem resetWalk_funcDecl {n : Node} {name : Name} (h : n.kind = .funcDecl name) (s : σ) (r : List Node) :
    resetWalk reset f s (n :: r) = resetWalk reset f (reset name) r := by
  simp only [resetWalk, h]

theorem resetWalk_other {n : Node} (h : n.isFuncDecl = false) (s : σ) (r : List Node) :
    resetWalk reset f s (n :: r) = f s n ++ resetWalk reset f s r := by
  simp only [resetWalk]
  split
  · rename_i hk; simp [Node.isFuncDecl, hk] at h
  · rfl

theorem resetWalk_noFunc (s : σ) (ns : List Node) (h : ∀ n ∈ ns, n.isFuncDecl = false) :
    resetWalk reset f s ns = ns.flatMap (f s) := by
  induction ns with
  | nil => rfl
  | cons n r ih =>
    rw [resetWalk_other reset f (h n List.mem_cons_self), ih fun m hm => h m (List.mem_cons_of_mem _ hm), List.flatMap_cons]

end

theorem ctorWalk_eq (c : WalkCtx) (fn : Name) (ns : List Node) : ctorWalk c fn ns = resetWalk id (ctorNode c) fn ns := by
  induction ns generalizing fn with
  | nil => rfl
  | cons n r ih => simp only [ctorWalk, ih]; rfl

theorem immWalk_eq (c : WalkCtx) (dr : Option RecvInfo) (fn : Name) (recv : Option RecvCtx) (ns : List Node) :
    immWalk c dr fn recv ns =
      resetWalk (fun name => (name, recvCtxOf dr)) (fun s => immNode c s.1 s.2) (fn, recv) ns := by
  induction ns generalizing fn recv with
  | nil => rfl
  | cons n r ih => simp only [immWalk, ih]; rfl

/-- a node map that keeps FuncDecl nodes (and their names) and subtree sizes: all a walk looks at besides what it
    hands to its visitor -/
structure KeepsShape (g : Node → Node) : Prop where
  funcDecl : ∀ n name, (g n).kind = .funcDecl name ↔ n.kind = .funcDecl name
  size : ∀ n, (g n).size = n.size

theorem KeepsShape.isFuncDecl {g : Node → Node} (hg : KeepsShape g) (n : Node) : (g n).isFuncDecl = n.isFuncDecl := by
  rw [Bool.eq_iff_iff, Node.isFuncDecl_iff, Node.isFuncDecl_iff]
  exact exists_congr (hg.funcDecl n)

theorem resetWalk_map {σ β γ : Type} (reset : Name → σ) (f : σ → Node → List β) (f' : σ → Node → List γ)
    {g : Node → Node} (hg : KeepsShape g) (δ : β → γ)
    (hf : ∀ s n, f' s (g n) = (f s n).map δ) (s : σ) (ns : List Node) :
    resetWalk reset f' s (ns.map g) = (resetWalk reset f s ns).map δ := by
  induction ns generalizing s with
  | nil => rfl
  | cons n r ih =>
    rw [List.map_cons]
    cases h : n.isFuncDecl with
    | false => rw [resetWalk_other _ _ ((hg.isFuncDecl n).trans h), resetWalk_other _ _ h, List.map_append, ih, hf s n]
    | true =>
      obtain ⟨name, hk⟩ := Node.isFuncDecl_iff.1 h
      rw [resetWalk_funcDecl _ _ ((hg.funcDecl n name).2 hk), resetWalk_funcDecl _ _ hk, ih]

/-- `step` returns the new state and how many of the following nodes (the descendants of the node) to skip -/
def pruneWalk {σ : Type} (step : σ → Node → σ × Nat) : σ → Nat → List Node → σ
  | s, _, [] => s
  | s, k + 1, _ :: r => pruneWalk step s k r
  | s, 0, n :: r => pruneWalk step (step s n).1 (step s n).2 r

section
variable {σ : Type} (step : σ → Node → σ × Nat)

theorem pruneWalk_skipAll (s : σ) (k : Nat) (ns : List Node) (h : ns.length ≤ k) : pruneWalk step s k ns = s := by
  induction ns generalizing k with
  | nil => cases k <;> rfl
  | cons n r ih =>
    cases k with
    | zero => simp at h
    | succ k => exact ih k (by simpa using h)

theorem pruneWalk_fixed (s : σ) (k : Nat) (ns : List Node) (h : ∀ n ∈ ns, (step s n).1 = s) :
    pruneWalk step s k ns = s := by
  induction ns generalizing k with
  | nil => cases k <;> rfl
  | cons n r ih =>
    have hr : ∀ m ∈ r, (step s m).1 = s := fun m hm => h m (List.mem_cons_of_mem _ hm)
    cases k with
    | zero => rw [pruneWalk, h n List.mem_cons_self]; exact ih _ hr
    | succ k => exact ih k hr

theorem pruneWalk_append (s : σ) (a rest : List Node) (h : ∀ n ∈ a, step s n = (s, 0)) :
    pruneWalk step s 0 (a ++ rest) = pruneWalk step s 0 rest := by
  induction a with
  | nil => rfl
  | cons n r ih =>
    rw [List.cons_append, pruneWalk, h n List.mem_cons_self]
    exact ih fun m hm => h m (List.mem_cons_of_mem _ hm)

theorem pruneWalk_noPrune (f : σ → Node → σ) (s : σ) (ns : List Node) (h : ∀ s, ∀ n ∈ ns, step s n = (f s n, 0)) :
    pruneWalk step s 0 ns = ns.foldl f s := by
  induction ns generalizing s with
  | nil => rfl
  | cons n r ih =>
    rw [pruneWalk, h s n List.mem_cons_self]
    exact ih _ fun s m hm => h s m (List.mem_cons_of_mem _ hm)

end

theorem pruneWalk_map {σ τ : Type} (step : σ → Node → σ × Nat) (step' : τ → Node → τ × Nat) (g : Node → Node) (S : σ → τ)
    (h : ∀ s n, step' (S s) (g n) = (S (step s n).1, (step s n).2)) (s : σ) (k : Nat) (ns : List Node) :
    pruneWalk step' (S s) k (ns.map g) = S (pruneWalk step s k ns) := by
  induction ns generalizing s k with
  | nil => cases k <;> rfl
  | cons n r ih =>
    cases k with
    | zero => simp only [List.map_cons, pruneWalk, h]; exact ih _ _
    | succ k => exact ih s k

def tonlStep (c : WalkCtx) (ig : ISet) (prune : Bool) (s : TonlState) (n : Node) : TonlState × Nat :=
  match n.kind with
  | .funcDecl _ => (s, if prune then n.size else 0)
  | _ => (tonlNode c ig s n, 0)

theorem tonlStep_funcDecl (c : WalkCtx) (ig : ISet) (prune : Bool) (s : TonlState) {n : Node} (h : n.isFuncDecl = true) :
    tonlStep c ig prune s n = (s, if prune then n.size else 0) := by
  obtain ⟨name, hk⟩ := Node.isFuncDecl_iff.1 h
  simp only [tonlStep, hk]

theorem tonlStep_other (c : WalkCtx) (ig : ISet) (prune : Bool) (s : TonlState) {n : Node} (h : n.isFuncDecl = false) :
    tonlStep c ig prune s n = (tonlNode c ig s n, 0) := by
  unfold tonlStep
  split
  · rename_i hk; simp [Node.isFuncDecl, hk] at h
  · rfl

theorem tonlWalk_eq (c : WalkCtx) (ig : ISet) (prune : Bool) (s : TonlState) (k : Nat) (ns : List Node) :
    tonlWalk c ig prune s k ns = pruneWalk (tonlStep c ig prune) s k ns := by
  induction ns generalizing s k with
  | nil => cases k <;> rfl
  | cons n r ih =>
    cases k with
    | succ k => exact ih s k
    | zero =>
      cases hk : n.kind <;> simp only [tonlWalk, pruneWalk, tonlStep, hk] <;> (try split) <;> exact ih _ _

/-- `S` is what the node map does to the walk state, `ig'` the ignore set on the mapped side -/
theorem tonlWalk_map {g : Node → Node} (hg : KeepsShape g) (S : TonlState → TonlState) (c : WalkCtx) (ig ig' : ISet)
    (h : ∀ s n, tonlNode c ig' (S s) (g n) = S (tonlNode c ig s n)) (prune : Bool) (s : TonlState) (k : Nat) (ns : List Node) :
    tonlWalk c ig' prune (S s) k (ns.map g) = S (tonlWalk c ig prune s k ns) := by
  rw [tonlWalk_eq, tonlWalk_eq]
  refine pruneWalk_map _ _ g S (fun s n => ?_) s k ns
  cases hn : n.isFuncDecl with
  | false => rw [tonlStep_other _ _ _ _ ((hg.isFuncDecl n).trans hn), tonlStep_other _ _ _ _ hn, h]
  | true => rw [tonlStep_funcDecl _ _ _ _ ((hg.isFuncDecl n).trans hn), tonlStep_funcDecl _ _ _ _ hn, hg.size]

def inlineStep (cpos cline : Int) (found : Bool) (n : Node) : Bool × Nat :=
  if n.pos ≥ cpos then (found, n.size)
  else if n.startLine == cline || n.endLine == cline then (true, n.size)
  else (found, 0)

theorem inlineWalk_eq (cpos cline : Int) (found : Bool) (k : Nat) (ns : List Node) :
    inlineWalk cpos cline found k ns = pruneWalk (inlineStep cpos cline) found k ns := by
  induction ns generalizing found k with
  | nil => cases k <;> rfl
  | cons n r ih =>
    cases k with
    | succ k => exact ih found k
    | zero =>
      simp only [inlineWalk, pruneWalk, inlineStep]
      split <;> (try split) <;> exact ih _ _

def nextStep (cpos : Int) (st : Int × Int) (n : Node) : (Int × Int) × Nat :=
  if n.pos ≤ cpos then (st, 0)
  else if st.1 == 0 || n.pos < st.1 then ((n.pos, n.stop), n.size)
  else (st, 0)

theorem nextWalk_eq (cpos : Int) (st : Int × Int) (k : Nat) (ns : List Node) :
    nextWalk cpos st k ns = pruneWalk (nextStep cpos) st k ns := by
  induction ns generalizing st k with
  | nil => cases k <;> rfl
  | cons n r ih =>
    cases k with
    | succ k => exact ih st k
    | zero =>
      simp only [nextWalk, pruneWalk, nextStep]
      split <;> (try split) <;> exact ih _ _

/-- go/ast shape of a top-level declaration as the walks see it: a FuncDecl node occurs only as the
    head of a `func` declaration (FuncDecl is never nested), carrying the declaration's name -/
structure DeclShape (d : Decl) : Prop where
  nonempty : d.nodes ≠ []
  tailNoFunc : ∀ n ∈ d.nodes.tail, n.isFuncDecl = false
  headFunc : ∀ name doc recv, d.info = .func name doc recv → ∃ h, d.nodes.head? = some h ∧ h.kind = .funcDecl name
  headGen : ∀ tok doc specs, d.info = .gen tok doc specs → ∃ h, d.nodes.head? = some h ∧ h.isFuncDecl = false

/-- name of the enclosing top-level function ("" for a non-function declaration) -/
def Decl.enclosingFn (d : Decl) : Name :=
  match d.info with
  | .func name _ _ => name
  | .gen .. => []

/-- receiver context of the enclosing top-level method (none outside methods) -/
def Decl.enclosingRecv (d : Decl) : Option RecvCtx :=
  match d.info with
  | .func _ _ r => recvCtxOf r
  | .gen .. => none

theorem DeclShape.nodes_eq {d : Decl} (hs : DeclShape d) :
    ∃ h r, d.nodes = h :: r ∧ (∀ m ∈ r, m.isFuncDecl = false) ∧
      match d.info with
      | .func name _ _ => h.kind = .funcDecl name
      | .gen .. => h.isFuncDecl = false := by
  cases hn : d.nodes with
  | nil => exact absurd hn hs.nonempty
  | cons h r =>
    refine ⟨h, r, rfl, fun m hm => hs.tailNoFunc m (by simp [hn, hm]), ?_⟩
    split
    · rename_i hi
      obtain ⟨h', hh, hk⟩ := hs.headFunc _ _ _ hi
      simp only [hn, List.head?_cons, Option.some.injEq] at hh
      exact hh ▸ hk
    · rename_i hi
      obtain ⟨h', hh, hk⟩ := hs.headGen _ _ _ hi
      simp only [hn, List.head?_cons, Option.some.injEq] at hh
      exact hh ▸ hk

theorem resetWalk_decl {σ β : Type} (reset : Name → σ) (f : σ → Node → List β) (s0 : σ) {d : Decl} (hs : DeclShape d)
    (hf : ∀ s n, n.isFuncDecl = true → f s n = []) :
    resetWalk reset f s0 d.nodes =
      d.nodes.flatMap (f (match d.info with
        | .func name _ _ => reset name
        | .gen .. => s0)) := by
  obtain ⟨h, r, hn, hr, hh⟩ := hs.nodes_eq
  rw [hn]
  split at hh
  · rw [resetWalk_funcDecl _ _ hh, resetWalk_noFunc _ _ _ _ hr, List.flatMap_cons,
      hf _ h (Node.isFuncDecl_iff.2 ⟨_, hh⟩), List.nil_append]
  · exact resetWalk_noFunc _ _ _ _ (List.forall_mem_cons.2 ⟨hh, hr⟩)

theorem ctorNode_funcDecl (c : WalkCtx) (cur : Name) (n : Node) (h : n.isFuncDecl = true) : ctorNode c cur n = [] := by
  obtain ⟨name, hk⟩ := Node.isFuncDecl_iff.1 h
  simp only [ctorNode, hk]

theorem immNode_funcDecl (c : WalkCtx) (cur : Name) (r : Option RecvCtx) (n : Node) (h : n.isFuncDecl = true) :
    immNode c cur r n = [] := by
  obtain ⟨name, hk⟩ := Node.isFuncDecl_iff.1 h
  simp only [immNode, hk]

/-- **constructor walk**: the stateful walk of a declaration is a stateless map with the enclosing function's name -/
theorem ctorDecl_eq (c : WalkCtx) (d : Decl) (hs : DeclShape d) :
    ctorDecl c d = d.nodes.flatMap (ctorNode c d.enclosingFn) := by
  rw [ctorDecl, ctorWalk_eq, resetWalk_decl id (ctorNode c) [] hs (ctorNode_funcDecl c)]
  unfold Decl.enclosingFn
  cases d.info <;> rfl

/-- **immutable walk**: likewise, with the enclosing method's receiver -/
theorem immDecl_eq (c : WalkCtx) (d : Decl) (hs : DeclShape d) :
    immDecl c d = d.nodes.flatMap (immNode c d.enclosingFn d.enclosingRecv) := by
  rw [immDecl, immWalk_eq,
    resetWalk_decl _ (fun s : Name × Option RecvCtx => immNode c s.1 s.2) _ hs fun s => immNode_funcDecl c s.1 s.2]
  unfold Decl.enclosingFn Decl.enclosingRecv declRecv
  cases d.info <;> rfl

/-- shape of every declaration of every file of the package -/
def PkgShape (p : Pkg) : Prop := ∀ f ∈ p.files, ∀ d ∈ f.decls, DeclShape d

theorem mem_filesToScan {cfg : Cfg} {p : Pkg} {f : File} :
    f ∈ filesToScan cfg p ↔ f ∈ p.files ∧ shouldSkip cfg f.name = false := by
  simp [filesToScan]

theorem filesToScan_map (g : File → File) (hg : ∀ f, (g f).name = f.name) (cfg : Cfg) {p p' : Pkg}
    (h : p'.files = p.files.map g) : filesToScan cfg p' = (filesToScan cfg p).map g := by
  simp only [filesToScan, h, List.filter_map, Function.comp_def, hg]

/-- `declIndex` sees the declarations only through the test `End() > pos` -/
theorem declIndex_map (g : Decl → Decl) (ds : List Decl) (pos pos' : Int) (h : ∀ d, (g d).stop > pos' ↔ d.stop > pos) :
    declIndex (ds.map g) pos' = declIndex ds pos := by
  unfold declIndex
  rw [List.findIdx?_map, List.length_map]
  exact congrArg (fun q => match ds.findIdx? q with | some i => i | none => ds.length)
    (funext fun d => decide_eq_decide.2 (h d))

theorem mem_flatMap_filesToScan {β : Type} {cfg : Cfg} {p : Pkg} {g : File → List β} {x : β} :
    x ∈ (filesToScan cfg p).flatMap g ↔ ∃ f ∈ p.files, shouldSkip cfg f.name = false ∧ x ∈ g f := by
  simp only [List.mem_flatMap, mem_filesToScan, and_assoc]

theorem mem_flatMap_scannedDecls {β : Type} {cfg : Cfg} {p : Pkg} {walk : Decl → List β} {x : β} :
    (x ∈ (filesToScan cfg p).flatMap fun f => f.decls.flatMap walk) ↔
      ∃ f ∈ p.files, shouldSkip cfg f.name = false ∧ ∃ d ∈ f.decls, x ∈ walk d := by
  rw [mem_flatMap_filesToScan]
  simp only [List.mem_flatMap]

end GGV.Model.Prog
